/-
  C08, Redis part.  The Redis reader keeps its own refill buffer; the dissection is a function of the bytes
  alone because reading a byte through the buffer (`ensureFill`) yields the next remaining byte however the
  stream is split into reads, and `readLineBytes`, the only routine that looks at the buffer window itself,
  returns the same on its fast path as on its slow path.
-/
import KsVerif.Redis.Model

namespace KsVerif.Proofs.C08
open KsVerif.Redis

theorem scanLine_of_scanWin (v : Nat) (s : Bytes) {x : Bytes × Bytes} : scanWin v s = some x → scanLine s = some x := by
  fun_induction scanWin v s generalizing x with
  | case1 | case2 | case3 | case4 => intro h; cases h
  | case5 => intro h; rw [← h]; simp [scanLine]
  | case6 _ _ _ hc ih =>
    intro h
    obtain ⟨y, hy, rfl⟩ := Option.map_eq_some_iff.mp h
    simp [scanLine, hc, ih hy]
  | case7 _ _ _ _ hb ih =>
    intro h
    obtain ⟨y, hy, rfl⟩ := Option.map_eq_some_iff.mp h
    simp [scanLine, hb, ih hy]

/-- Whatever part of the remaining bytes is in the buffer and however many the next refill brings,
    `readLineBytes` returns what the plain scan of the remaining bytes returns. -/
theorem readLineBytesWin_eq (vis refill : Nat) (st : St) :
    readLineBytesWin vis refill st = readLineBytes st := by
  unfold readLineBytesWin
  by_cases hr : st.rem = []
  · simp [hr, readLineBytes, scanLine]
  · simp only [hr, if_false]
    cases hw : scanWin (if vis = 0 then refill else vis) st.rem with
    | none => rfl
    | some x =>
      have := scanLine_of_scanWin _ _ hw
      simp [readLineBytes, this]

/-- The reader's buffer and the reads still to come. -/
structure Win where
  cur : Bytes           -- Buf[count:limit]
  chunks : List Bytes   -- what successive Read calls will deliver
  deriving Repr

def Win.flat (w : Win) : Bytes := w.cur ++ w.chunks.flatten

/-- ensureFill with a buffer of `B` bytes: one Read, which delivers at most `B` bytes of the
    next segment and leaves the rest of that segment for the following Read. -/
def fill (B : Nat) (w : Win) : Option Win :=
  match w.cur with
  | _ :: _ => some w
  | [] =>
    match w.chunks with
    | [] => none
    | c :: cs => some { cur := c.take B, chunks := if c.drop B = [] then cs else c.drop B :: cs }

/-- readByte through the buffer. -/
def nextWin (B : Nat) (w : Win) : Option (UInt8 × Win) :=
  match fill B w with
  | none => none
  | some w' =>
    match w'.cur with
    | [] => none
    | b :: r => some (b, { w' with cur := r })

/-- a refill keeps the bytes still to come and never leaves the buffer empty: segments are non-empty, `B ≥ 1` -/
theorem fill_spec {B : Nat} (hB : 0 < B) (w : Win) (hne : ∀ c ∈ w.chunks, c ≠ []) :
    match fill B w with
    | none => w.flat = []
    | some w' => w'.flat = w.flat ∧ w'.cur ≠ [] := by
  rcases hc : w.cur with _ | ⟨a, t⟩
  · rcases hk : w.chunks with _ | ⟨c, cs⟩
    · simp [fill, hc, hk, Win.flat]
    · obtain ⟨x, xs, rfl⟩ := List.exists_cons_of_ne_nil (hne c (by simp [hk]))
      obtain ⟨n, rfl⟩ := Nat.exists_eq_succ_of_ne_zero (Nat.ne_of_gt hB)
      simp only [fill, hc, hk, Win.flat, List.nil_append, List.flatten_cons]
      refine ⟨?_, by simp⟩
      split
      · next hd =>
        have := List.take_append_drop (n + 1) (x :: xs)
        rw [hd, List.append_nil] at this
        rw [this]
      · rw [List.flatten_cons, ← List.append_assoc, List.take_append_drop]
  · simp [fill, hc]

/-- For every buffer size `B ≥ 1` and every segmentation of the stream into non-empty reads, reading a byte
    through the buffer yields the first of the remaining bytes and leaves the rest. -/
theorem nextWin_flat (B : Nat) (hB : 0 < B) (w : Win) (hne : ∀ c ∈ w.chunks, c ≠ []) :
    match nextWin B w with
    | none => w.flat = []
    | some (b, w') => w.flat = b :: w'.flat := by
  have h := fill_spec hB w hne
  unfold nextWin
  cases hf : fill B w with
  | none =>
    rw [hf] at h
    exact h
  | some w' =>
    rw [hf] at h
    cases hc : w'.cur with
    | nil => exact absurd hc h.2
    | cons b r =>
      simp only
      rw [← h.1]
      simp [Win.flat, hc]

/-- Non-vacuity: the split `"+" | "OK\r\n"` that used to panic. -/
example : readLineBytesWin 0 4 { rem := [79, 75, 13, 10, 43], tail := .eof }
    = .ok ([79, 75], { rem := [43], tail := .eof }) := by rfl

end KsVerif.Proofs.C08
