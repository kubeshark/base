/-
  C15 — redaction removes every targeted value and nothing else.  That is measured: the
  correspondence check evaluates, for every generated record × path set, the real `redact`, the
  model of `redactRecursively` and the structural spec `RedactSpec.expected`, and compares the
  records as values, looking through nested documents; three shapes of path on which the
  implementation adds keys or rewrites the wrong document are recorded findings.  The theorems
  here are about the two ends of that comparison.  For the spec, marker and frame are proved for
  the paths redaction is mostly used with, a chain of keys and array indices
  (`request.headers.Authorization`, `a.b[2].c`), over `Path.get`, the model of `jp.Get` that the
  evaluator uses, with any fuel that covers the path; the proofs go through `sel`.  Partial:
  "marker at every denoted location ∧ frame" over the model of `redactRecursively` is not
  proved; XML hops are outside the model.
-/
import KsVerif.Kfl.RedactSpec

namespace KsVerif.Proofs.C15
open KsVerif.Kfl KsVerif.Kfl.RedactSpec

/-- A redaction argument that is one plain path denoting nothing in the record: the helper
    hands the record back unchanged and no key appears. -/
theorem c15_absent_path_noop (obj : Json) (path : String) (p : Path)
    (hsplit : path.splitOn ".json()" = [path])
    (hxml : (path.splitOn ".xml()").length ≤ 1)
    (hparse : Path.parse path = .ok p)
    (hmiss : Path.getAllOf p obj = []) :
    redactHelper obj [.json (.str path)] = obj := by
  have hx : ¬ ((path.splitOn ".xml()").length > 1) := by omega
  simp [redactHelper, splitOnStr, stringOperand, stringOfJson, hsplit, redactRec, hx, hparse, hmiss]

/-- Spec: a child step whose key the object does not have rewrites nothing — no key is added
    for a path that does not exist. -/
theorem c15_spec_no_key_added (fuel : Nat) (k : String) (r : Path) (f : Json → Json)
    (kvs : List (String × Json)) (h : ∀ kv ∈ kvs, kv.1 ≠ k) :
    rewriteAt (fuel + 1) (.child k :: r) f (.obj kvs) = .obj kvs := by
  simp only [rewriteAt]
  congr 1
  rw [List.map_congr_left (g := id) fun kv hkv => by simp [h kv hkv], List.map_id]

/-- Spec: the rewrite keeps the keys of an object it passes through by a child step. -/
theorem c15_spec_keys_kept (fuel : Nat) (k : String) (r : Path) (f : Json → Json)
    (kvs : List (String × Json)) :
    ∃ kvs', rewriteAt (fuel + 1) (.child k :: r) f (.obj kvs) = .obj kvs' ∧
      kvs'.map (·.1) = kvs.map (·.1) := by
  refine ⟨_, rfl, ?_⟩
  rw [List.map_map]
  exact List.map_congr_left fun kv _ => by dsimp only [Function.comp]; split <;> rfl

/-- Spec: a child or index step on a value of another kind changes nothing. -/
theorem c15_spec_scalar_untouched (fuel : Nat) (k : String) (r : Path) (f : Json → Json) (s : String) :
    rewriteAt (fuel + 1) (.child k :: r) f (.str s) = .str s := rfl

/-- a chain of keys and array indices (an optional `$` anywhere is harmless) -/
def simplePath : Path → Bool
  | [] => true
  | .root :: r => simplePath r
  | .child _ :: r => simplePath r
  | .nth _ :: r => simplePath r
  | _ => false

theorem lookup_map_rewrite (k k' : String) (h : Json → Json) (kvs : List (String × Json)) :
    Json.lookup (kvs.map fun kv => if kv.1 == k then (kv.1, h kv.2) else kv) k'
      = (Json.lookup kvs k').map (if k' = k then h else id) := by
  induction kvs with
  | nil => rfl
  | cons a t ih =>
    simp only [Json.lookup, List.map_cons, List.find?_cons] at ih ⊢
    by_cases hk' : a.1 = k'
    · subst hk'
      by_cases hk : a.1 = k <;> simp [hk]
    · have e : ((if (a.1 == k) = true then (a.1, h a.2) else a).1 == k') = false := by
        split <;> simpa using hk'
      rw [e, beq_eq_false_iff_ne.mpr hk']
      exact ih

/-- the one member a key or an index selects (nothing for the other fragments) -/
def sel : Frag → Json → Option Json
  | .child k, .obj kvs => Json.lookup kvs k
  | .nth n, .arr xs =>
    let i : Int := if n < 0 then (xs.length : Int) + n else n
    if i < 0 then none else xs[i.toNat]?
  | _, _ => none

def isSel : Frag → Bool
  | .child _ | .nth _ => true
  | _ => false

theorem get_sel {fr : Frag} (h : isSel fr = true) (f : Nat) (r : Path) (j : Json) :
    Path.get (f + 1) (fr :: r) j = ((sel fr j).map (Path.get f r)).getD [] := by
  cases fr with
  | child k =>
    cases j with
    | obj kvs =>
      simp only [Path.get, sel]
      cases Json.lookup kvs k <;> rfl
    | _ => rfl
  | nth n =>
    cases j with
    | arr xs =>
      simp only [Path.get, sel]
      generalize (if n < 0 then (xs.length : Int) + n else n) = i
      by_cases hi : i < 0
      · simp [hi]
      · simp only [hi, if_false]
        split <;> simp [*]
    | _ => rfl
  | _ => cases h

theorem sel_rewriteAt (fr : Frag) (f : Nat) (r : Path) (g : Json → Json) (j : Json) :
    sel fr (rewriteAt (f + 1) (fr :: r) g j) = (sel fr j).map (rewriteAt f r g) := by
  cases fr with
  | child k =>
    cases j with
    | obj kvs => exact (lookup_map_rewrite k k (rewriteAt f r g) kvs).trans (by rw [if_pos rfl]; rfl)
    | _ => rfl
  | nth n =>
    cases j with
    | arr xs =>
      simp only [rewriteAt]
      by_cases hi : (if n < 0 then (xs.length : Int) + n else n) < 0 <;> simp [hi, sel]
    | _ => rfl
  | _ => rfl

/-- only the rewrite needs fuel for the whole path: where `Path.get` runs out it does so on both sides -/
theorem get_rewriteAt (g : Json → Json) :
    ∀ (p : Path), simplePath p = true → ∀ (j : Json) (f1 f2 : Nat), p.length < f2 →
      Path.get f1 p (rewriteAt f2 p g j) = (Path.get f1 p j).map g
  | _, _, _, 0, _, _ => rfl
  | _, _, _, _ + 1, 0, h => absurd h (Nat.not_lt_zero _)
  | [], _, _, _ + 1, _ + 1, _ => rfl
  | fr :: r, hs, j, a + 1, b + 1, h2 => by
    have ih := fun hr v => get_rewriteAt g r hr v a b (Nat.lt_of_succ_lt_succ h2)
    cases fr with
    | root => exact ih hs j
    | wildcard | descent => cases hs
    | child _ | nth _ =>
      rw [get_sel rfl, get_sel rfl, sel_rewriteAt]
      cases sel _ j with
      | none => rfl
      | some v => exact ih hs v

/-- The marker is at every location the path denotes (paths of keys and indices): on the rewritten
    record the path gives the marker wherever it gave a value, and nothing where it gave nothing. -/
theorem c15_marker_at_target (m : Json) :
    ∀ (p : Path), simplePath p = true → ∀ (j : Json) (f1 f2 : Nat), p.length < f1 → p.length < f2 →
      Path.get f1 p (rewriteAt f2 p (fun _ => m) j) = (Path.get f1 p j).map (fun _ => m) :=
  fun p hs j f1 f2 _ h2 => get_rewriteAt _ p hs j f1 f2 h2

/-- two chains of keys / indices that part ways: at the first step where they differ they name
    different keys, different (non-negative) indices, or a key against an index.  (Neither is a
    prefix of the other: a location below or above a redacted one is not "outside" it.) -/
def diverge : Path → Path → Bool
  | .child k :: r, .child k' :: r' => if k == k' then diverge r r' else true
  | .nth n :: r, .nth n' :: r' => if n == n' then diverge r r' else (decide (0 ≤ n) && decide (0 ≤ n'))
  | .child _ :: _, .nth _ :: _ => true
  | .nth _ :: _, .child _ :: _ => true
  | _, _ => false

/-- indices must be non-negative: a negative one counts from the end and may name the same element -/
def apart : Frag → Frag → Prop
  | .child k, .child k' => k ≠ k'
  | .nth n, .nth n' => n ≠ n' ∧ 0 ≤ n ∧ 0 ≤ n'
  | .child _, .nth _ => True
  | .nth _, .child _ => True
  | _, _ => False

theorem sel_rewriteAt_apart {fr fr' : Frag} (h : apart fr fr') (f : Nat) (r : Path) (g : Json → Json) (j : Json) :
    sel fr' (rewriteAt (f + 1) (fr :: r) g j) = sel fr' j := by
  cases fr with
  | child k =>
    cases fr' with
    | child k' =>
      cases j with
      | obj kvs => exact (lookup_map_rewrite k k' (rewriteAt f r g) kvs).trans (by rw [if_neg (Ne.symm h)]; exact Option.map_id')
      | _ => rfl
    | nth n' => cases j <;> rfl
    | _ => exact h.elim
  | nth n =>
    cases fr' with
    | nth n' =>
      cases j with
      | arr xs =>
        obtain ⟨hne, h0, h0'⟩ := h
        have hn : ¬ n < 0 := by omega
        have hn' : ¬ n' < 0 := by omega
        have hi : n'.toNat ≠ n.toNat := by omega
        simp [rewriteAt, sel, hn, hn', hi]
      | _ => rfl
    | child k' =>
      cases j with
      | arr xs =>
        simp only [rewriteAt]
        by_cases hi : (if n < 0 then (xs.length : Int) + n else n) < 0 <;> simp [hi, sel]
      | _ => rfl
    | _ => exact h.elim
  | _ => exact h.elim

theorem diverge_cons {fr fq : Frag} {r r' : Path} (h : diverge (fr :: r) (fq :: r') = true) :
    isSel fq = true ∧ (fr = fq ∧ diverge r r' = true ∨ apart fr fq) := by
  cases fr with
  | child k =>
    cases fq with
    | child k' =>
      have h' : (if k == k' then diverge r r' else true) = true := h
      by_cases hk : k = k'
      · rw [if_pos (beq_iff_eq.mpr hk)] at h'
        exact ⟨rfl, .inl ⟨by rw [hk], h'⟩⟩
      · exact ⟨rfl, .inr hk⟩
    | nth _ => exact ⟨rfl, .inr trivial⟩
    | _ => cases h
  | nth n =>
    cases fq with
    | nth n' =>
      have h' : (if n == n' then diverge r r' else (decide (0 ≤ n) && decide (0 ≤ n'))) = true := h
      by_cases hn : n = n'
      · rw [if_pos (beq_iff_eq.mpr hn)] at h'
        exact ⟨rfl, .inl ⟨by rw [hn], h'⟩⟩
      · rw [if_neg (fun hb => hn (beq_iff_eq.mp hb))] at h'
        exact ⟨rfl, .inr ⟨hn, by simpa using h'⟩⟩
    | child _ => exact ⟨rfl, .inr trivial⟩
    | _ => cases h
  | _ => cases h

/-- no fuel is asked for: when either runs out, both sides are what they were -/
theorem get_rewriteAt_diverge (g : Json → Json) :
    ∀ (p q : Path), diverge p q = true → ∀ (j : Json) (f1 f2 : Nat),
      Path.get f1 q (rewriteAt f2 p g j) = Path.get f1 q j
  | [], q, hd, _, _, _ => by cases q <;> cases hd
  | fr :: _, [], hd, _, _, _ => by cases fr <;> cases hd
  | _ :: _, _ :: _, _, _, 0, _ => rfl
  | _ :: _, _ :: _, _, _, _ + 1, 0 => rfl
  | fr :: r, fq :: r', hd, j, a + 1, b + 1 => by
    obtain ⟨hq, ⟨rfl, hd'⟩ | hap⟩ := diverge_cons hd
    · rw [get_sel hq, get_sel hq, sel_rewriteAt]
      cases sel fr j with
      | none => rfl
      | some v => exact get_rewriteAt_diverge g r r' hd' v a b
    · rw [get_sel hq, get_sel hq, sel_rewriteAt_apart hap]

/-- Frame: rewriting (by any function) the locations of `p` leaves what a diverging path `q`
    denotes exactly as it was. -/
theorem c15_frame (g : Json → Json) :
    ∀ (p q : Path), diverge p q = true → ∀ (j : Json) (f1 f2 : Nat), q.length < f1 → p.length < f2 →
      Path.get f1 q (rewriteAt f2 p g j) = Path.get f1 q j :=
  fun p q hd j f1 f2 _ _ => get_rewriteAt_diverge g p q hd j f1 f2

/-- C15 for one plain argument (`redact("a.b[2].c")`): what the spec's redaction produces holds
    the marker at every location the path denotes ... -/
theorem c15_redact_marks (p : Path) (hs : simplePath p = true) (j : Json) (f1 : Nat) (h1 : p.length < f1) :
    Path.get f1 p (redactHops 2 [p] j) = (Path.get f1 p j).map (fun _ => marker) := by
  exact get_rewriteAt _ p hs j f1 _ (by omega)

/-- ... and every location that parts ways with it holds what it held -/
theorem c15_redact_frame (p q : Path) (hd : diverge p q = true) (j : Json) (f1 : Nat) (h1 : q.length < f1) :
    Path.get f1 q (redactHops 2 [p] j) = Path.get f1 q j := by
  exact get_rewriteAt_diverge _ p q hd j f1 _

example : diverge [.child "request", .child "headers", .child "Authorization"]
    [.child "request", .child "headers", .child "Host"] = true ∧
    diverge [.child "a", .child "b", .nth 0] [.child "a", .child "b", .nth 1, .child "c"] = true := by decide

end KsVerif.Proofs.C15
