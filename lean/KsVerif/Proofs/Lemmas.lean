/-
  Facts that proof modules of several protocols share and that are about no model in particular.
  Big-endian byte strings: AMQP and Kafka define `be` / `beNat` with the same bodies, so their terms
  unfold to the ones here.  Decimal numerals as bytes (HTTP/1 lengths, RESP integers).  Where
  `takeWhile` / `dropWhile` cut a run; items of at least a byte are no more than the bytes they make.
  `Post`, the postcondition of a call that may fail, with the rule by which the readers of the Redis,
  AMQP and Kafka models are followed call by call, and `Fails`, how a reader with fuel may fail.
-/
namespace KsVerif.Proofs.Lemmas

abbrev be (n v : Nat) : List UInt8 := (List.range n).reverse.map fun i => UInt8.ofNat ((v / 256 ^ i) % 256)

abbrev beNat (bs : List UInt8) : Nat := bs.foldl (fun acc b => acc * 256 + b.toNat) 0

theorem be_length (n v : Nat) : (be n v).length = n := by simp

theorem be_succ (n v : Nat) : be (n + 1) v = UInt8.ofNat ((v / 256 ^ n) % 256) :: be n v := by
  simp [List.range_succ]

theorem beNat_cons (d : UInt8) (rest : List UInt8) :
    beNat (d :: rest) = d.toNat * 256 ^ rest.length + beNat rest := by
  suffices h : ∀ acc, rest.foldl (fun a b => a * 256 + b.toNat) acc = acc * 256 ^ rest.length + beNat rest by
    simpa using h d.toNat
  induction rest with
  | nil => simp
  | cons b bs ih =>
    intro acc
    simp only [beNat, List.foldl_cons, List.length_cons, Nat.zero_mul, Nat.zero_add]
    rw [ih, ih b.toNat, Nat.pow_succ, Nat.add_mul, Nat.mul_assoc, Nat.mul_comm 256, Nat.add_assoc]

theorem beNat_be (n v : Nat) : beNat (be n v) = v % 256 ^ n := by
  induction n with
  | zero => simp [Nat.mod_one]
  | succ n ih =>
    rw [be_succ, beNat_cons, be_length, ih, UInt8.toNat_ofNat', Nat.mod_mod, Nat.pow_succ, Nat.mod_mul,
      Nat.mul_comm, Nat.add_comm]

/-- the ASCII bytes of the decimal numeral of `n` (what `toString n` gives, byte by byte) -/
def digitBytes (n : Nat) : List UInt8 := (Nat.toDigits 10 n).map fun c => c.toNat.toUInt8

theorem digitBytes_ne_nil (n : Nat) : digitBytes n ≠ [] := by
  simp [digitBytes, Nat.toDigits_ne_nil]

theorem digit_toUInt8 {c : Char} (h : c.isDigit = true) :
    c.toNat.toUInt8.toNat = c.toNat ∧ 48 ≤ c.toNat ∧ c.toNat ≤ 57 := by
  have h' : 48 ≤ c.toNat ∧ c.toNat ≤ 57 := Char.isDigit_iff_toNat.mp h
  refine ⟨?_, h'⟩
  simp only [Nat.toUInt8_eq, UInt8.toNat_ofNat']
  omega

theorem digitBytes_range {n : Nat} {b : UInt8} (hb : b ∈ digitBytes n) : 48 ≤ b.toNat ∧ b.toNat ≤ 57 := by
  obtain ⟨c, hc, rfl⟩ := List.mem_map.mp hb
  obtain ⟨h1, h2⟩ := digit_toUInt8 (Nat.isDigit_of_mem_toDigits (by decide) (by decide) hc)
  rw [h1]; exact h2

theorem digitBytes_ne {n : Nat} {b x : UInt8} (hb : b ∈ digitBytes n) (hx : x.toNat < 48 ∨ 57 < x.toNat) : b ≠ x :=
  fun h => by have := digitBytes_range hb; rw [h] at this; omega

/-- Horner's rule over the digit bytes gives the number back (core's `Nat.ofDigitChars_ten_toDigits`
    carried from characters to bytes) -/
theorem digitBytes_fold (n : Nat) : (digitBytes n).foldl (fun acc b => acc * 10 + (b.toNat - 48)) 0 = n := by
  have h : ∀ (cs : List Char), (∀ c ∈ cs, c.isDigit = true) → ∀ acc : Nat,
      (cs.map fun c => c.toNat.toUInt8).foldl (fun acc b => acc * 10 + (b.toNat - 48)) acc
        = Nat.ofDigitChars 10 cs acc := by
    intro cs
    induction cs with
    | nil => intros; rfl
    | cons c cs ih =>
      intro hd acc
      simp only [List.map_cons, List.foldl_cons, Nat.ofDigitChars_cons,
        (digit_toUInt8 (hd c (by simp))).1, Nat.mul_comm acc]
      exact ih (fun x hx => hd x (by simp [hx])) _
  rw [digitBytes, h _ (fun _ hc => Nat.isDigit_of_mem_toDigits (by decide) (by decide) hc),
    Nat.ofDigitChars_ten_toDigits]

theorem span_run {α : Type} {p : α → Bool} {a r : List α} (ha : a.all p = true)
    (hr : ∀ x ∈ r.head?, p x = false) :
    (a ++ r).takeWhile p = a ∧ (a ++ r).dropWhile p = r := by
  have ha := List.all_eq_true.mp ha
  rw [List.takeWhile_append_of_pos ha, List.dropWhile_append_of_pos ha]
  cases r with
  | nil => simp
  | cons x xs => simp [hr x rfl]

theorem nodup_concat {α : Type} {l : List α} {a : α} (hl : l.Nodup) (ha : a ∉ l) : (l ++ [a]).Nodup :=
  List.nodup_append.mpr ⟨hl, by simp, fun x hx y hy e => ha (List.eq_of_mem_singleton hy ▸ e ▸ hx)⟩

theorem length_le_flatten {α β : Type} (f : α → List β) (xs : List α) (h : ∀ x ∈ xs, 1 ≤ (f x).length) :
    xs.length ≤ ((xs.map f).flatten).length := by
  induction xs with
  | nil => exact Nat.le_refl 0
  | cons x xs ih =>
    have := h x List.mem_cons_self
    have := ih fun y hy => h y (List.mem_cons_of_mem _ hy)
    simp only [List.map_cons, List.flatten_cons, List.length_append, List.length_cons]
    omega

/-- `r` fails only with errors in `E` and succeeds only with values in `Q`. -/
def Post {ε β : Type} (E : ε → Prop) (Q : β → Prop) : Except ε β → Prop
  | .error e => E e
  | .ok b => Q b

section
variable {ε β : Type} {E E' : ε → Prop} {Q Q' : β → Prop} {r : Except ε β}

@[simp] theorem post_ok {b : β} : Post E Q (.ok b) ↔ Q b := Iff.rfl

@[simp] theorem post_error {e : ε} : Post E Q (.error e) ↔ E e := Iff.rfl

/-- The rule for `match r with | .error e => .. | .ok b => ..`: the rest of a routine is followed once
    under each outcome `r` may have.  (An eliminator: the `match` is found in the goal, so it need not be
    written as a bind.) -/
@[elab_as_elim]
theorem Post.cases {M : Except ε β → Prop} (h : Post E Q r)
    (error : ∀ e, E e → M (.error e)) (ok : ∀ b, Q b → M (.ok b)) : M r := by
  cases r with
  | error e => exact error e h
  | ok b => exact ok b h

theorem Post.ok {b : β} (h : Post E Q r) (hr : r = .ok b) : Q b := by subst hr; exact h

theorem Post.imp (h : Post E Q r) (hE : ∀ e, E e → E' e) (hQ : ∀ b, Q b → Q' b) : Post E' Q' r :=
  h.cases hE hQ

/-- both branches of a test are followed: what it tests does not matter -/
theorem Post.ite {c : Prop} [Decidable c] {a b : Except ε β} (ha : Post E Q a) (hb : Post E Q b) :
    Post E Q (if c then a else b) := by
  split <;> assumption

/-- the same where a branch needs what was tested -/
theorem Post.dite {c : Prop} [Decidable c] {a b : Except ε β} (ha : c → Post E Q a) (hb : ¬ c → Post E Q b) :
    Post E Q (if c then a else b) := by
  split
  · exact ha ‹_›
  · exact hb ‹_›

end

/-- How a reader of a model with a fuel argument fails: never by a panic, and for lack of fuel only if `enough`
    is false.  Readers that use no fuel have every `enough`.  (`isPanic`, `outOfFuel`: the model's error type.) -/
def Fails {ε : Type} (isPanic : ε → Bool) (outOfFuel : ε) (enough : Prop) (e : ε) : Prop :=
  isPanic e = false ∧ (enough → e ≠ outOfFuel)

section
variable {ε : Type} {isPanic : ε → Bool} {outOfFuel e : ε} {p q : Prop}

theorem Fails.mono (h : Fails isPanic outOfFuel p e) (hpq : q → p) : Fails isPanic outOfFuel q e :=
  ⟨h.1, fun hq => h.2 (hpq hq)⟩

theorem Fails.of_ne (hp : isPanic e = false) (hf : e ≠ outOfFuel) : Fails isPanic outOfFuel p e :=
  ⟨hp, fun _ => hf⟩

end

end KsVerif.Proofs.Lemmas
