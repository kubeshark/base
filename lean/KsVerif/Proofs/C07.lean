/-
  C07: the Redis reader model (`Redis/Model.lean`, command and keyword tables regenerated) inverts the
  independent RESP encoder of `Redis/Spec.lean`, and the packets it shapes carry what `reqOk` / `respOk` demand.
-/
import KsVerif.Redis.Spec
import KsVerif.Redis.Driver
import KsVerif.Proofs.C01
import KsVerif.Proofs.Lemmas

namespace KsVerif.Proofs.C07
open KsVerif.Redis KsVerif.Redis.Spec KsVerif.Proofs.RedisReader KsVerif.Proofs.Lemmas

/-- Bulk strings are binary-safe: a body of the declared length is returned byte for byte whatever it holds
    (CR, LF, CR LF), and reading resumes after the terminator. -/
theorem c07_bulk_binary_safe (body rest : Bytes) (tail : Tail) :
    bulkBody body.length { rem := body ++ [CR, LF] ++ rest, tail }
      = .ok (body, { rem := rest, tail }) := by
  unfold bulkBody
  simp [next, CR, LF]

/-- A declared length beyond what the stream holds ends with the stream's own end; nothing is fabricated. -/
theorem c07_bulk_short (l : Int) (st : St) (h : st.rem.length < l.toNat) :
    bulkBody l st = .error st.endErr := by
  unfold bulkBody
  simp [h]

theorem scanLine_line (s rest : Bytes) (h : ∀ b ∈ s, b ≠ CR) :
    scanLine (s ++ CR :: LF :: rest) = some (s, rest) := by
  induction s with
  | nil => simp [scanLine]
  | cons b s ih =>
    have hb : b ≠ CR := h b (by simp)
    have ih' := ih fun x hx => h x (by simp [hx])
    -- `scanLine` looks two bytes ahead
    obtain ⟨c, tl, hc⟩ : ∃ c tl, s ++ CR :: LF :: rest = c :: tl := by cases s <;> simp
    rw [List.cons_append, hc, scanLine, if_neg hb, ← hc, ih']
    rfl

/-- the stream written `.. ++ 13 :: 10 :: rest`, as it stands where reads chain -/
theorem line_run (s : Bytes) (h : ∀ b ∈ s, b ≠ CR) (rest : Bytes) (tail : Tail) :
    readLineBytes { rem := s ++ 13 :: 10 :: rest, tail } = .ok (s, { rem := rest, tail }) := by
  simp [readLineBytes, show scanLine (s ++ 13 :: 10 :: rest) = some (s, rest) from scanLine_line s rest h]

/-- Simple strings and error lines (no CR inside) are read back exactly. -/
theorem c07_line_exact (s rest : Bytes) (tail : Tail) (h : ∀ b ∈ s, b ≠ CR) :
    readLineBytes { rem := s ++ [CR, LF] ++ rest, tail } = .ok (s, { rem := rest, tail }) := by
  simpa [CR, LF] using line_run s h rest tail

/-- Non-vacuity: a value holding CR LF and a NUL. -/
example : bulkBody 5 { rem := [97, 13, 10, 0, 98, 13, 10, 43], tail := .eof }
    = .ok ([97, 13, 10, 0, 98], { rem := [43], tail := .eof }) := by rfl

theorem wrap64_step (a : Int) (d : Int) : wrap64 (wrap64 a * 10 + d - 48) = wrap64 (a * 10 + d - 48) := by
  unfold wrap64; omega

theorem wrap64_id (a : Int) (h1 : -9223372036854775808 ≤ a) (h2 : a ≤ 9223372036854775807) : wrap64 a = a := by
  unfold wrap64; omega

theorem wrap64_neg (a : Int) : wrap64 (-(wrap64 a)) = wrap64 (-a) := by
  unfold wrap64; omega

/-- Horner's rule; the wrap-around of every step is absorbed into one at the end (`wrap64_step`). -/
theorem digits_run (ds rest : Bytes) (t : Tail) (h : ∀ b ∈ ds, 48 ≤ b.toNat ∧ b.toNat ≤ 57) : ∀ a : Nat,
    digits (ds ++ CR :: LF :: rest) (wrap64 a) t
      = .ok (wrap64 (ds.foldl (fun acc b => acc * 10 + (b.toNat - 48)) a : Nat), rest) := by
  induction ds with
  | nil => intro a; simp [digits]
  | cons b ds ih =>
    intro a
    have hb := h b (by simp)
    have hne : b ≠ CR := fun hcr => by rw [hcr] at hb; exact absurd hb.1 (by decide)
    obtain ⟨c, tl, hc⟩ : ∃ c tl, ds ++ CR :: LF :: rest = c :: tl := by cases ds <;> simp
    have hstep : wrap64 (wrap64 a * 10 + b.toNat - 48) = wrap64 ((a * 10 + (b.toNat - 48) : Nat) : Int) := by
      rw [wrap64_step]
      congr 1
      omega
    rw [List.cons_append, hc, digits, if_neg hne, ← hc, hstep, List.foldl_cons]
    exact ih (fun x hx => h x (by simp [hx])) _

def byteOfChar (c : Char) : UInt8 := c.toNat.toUInt8

theorem asciiBytes_eq (s : String) : asciiBytes s = s.toList.map byteOfChar := rfl

theorem dec_nonneg (n : Int) (h : 0 ≤ n) : dec n = digitBytes n.toNat := by
  simp [dec, asciiBytes, Int.repr_eq_if, h, digitBytes]

theorem dec_neg (n : Int) (h : n < 0) : dec n = 45 :: digitBytes (-n).toNat := by
  have : ¬ (0 ≤ n) := by omega
  simp [dec, asciiBytes, Int.repr_eq_if, this, digitBytes]

theorem digits_digitBytes (n : Nat) (rest : Bytes) (t : Tail) :
    digits (digitBytes n ++ CR :: LF :: rest) 0 t = .ok (wrap64 n, rest) := by
  have := digits_run (digitBytes n) rest t (fun _ hb => digitBytes_range hb) 0
  rwa [digitBytes_fold, show wrap64 (0 : Nat) = 0 from rfl] at this

theorem readInt_run (n : Int) (h1 : -9223372036854775808 ≤ n) (h2 : n ≤ 9223372036854775807) (rest : Bytes)
    (tail : Tail) : readInt { rem := dec n ++ 13 :: 10 :: rest, tail } = .ok (n, { rem := rest, tail }) := by
  by_cases hn : 0 ≤ n
  · rw [dec_nonneg n hn]
    obtain ⟨b, bs, hd⟩ := List.exists_cons_of_ne_nil (digitBytes_ne_nil n.toNat)
    have hb : b ≠ 45 := digitBytes_ne (n := n.toNat) (by rw [hd]; simp) (.inl (by decide))
    have := digits_digitBytes n.toNat rest tail
    rw [hd] at this ⊢
    simp only [readInt, List.cons_append, hb, if_false, CR, LF] at this ⊢
    have hw : wrap64 (n.toNat : Int) = n := by rw [wrap64_id] <;> omega
    rw [this, hw]
  · have hneg : n < 0 := by omega
    rw [dec_neg n hneg]
    have := digits_digitBytes (-n).toNat rest tail
    simp only [readInt, List.cons_append, if_true, CR, LF] at this ⊢
    have hw : wrap64 (-(wrap64 ((-n).toNat : Int))) = n := by
      rw [wrap64_neg, wrap64_id] <;> omega
    rw [this]
    simp only [hw]

/-- `readIntCrLf` inverts the decimal encoding over the whole int64 range. -/
theorem c07_readInt_dec (n : Int) (h1 : -9223372036854775808 ≤ n) (h2 : n ≤ 9223372036854775807)
    (rest : Bytes) (tail : Tail) :
    readInt { rem := dec n ++ crlf ++ rest, tail } = .ok (n, { rem := rest, tail }) := by
  simpa [crlf] using readInt_run n h1 h2 rest tail

mutual
  /-- the value `process` must return for a reply -/
  def valOf : Reply → RVal
    | .simple s => .bytes s false
    | .error m => match errorString m with
      | .ok s => .str s
      | .error _ => .str []
    | .int n => .int n
    | .bulk none => .bytes [] true
    | .bulk (some b) => .bytes b false
    | .array none => .arr [] true
    | .array (some xs) => .arr (valsOf xs) false
  def valsOf : List Reply → List RVal
    | [] => []
    | r :: rs => valOf r :: valsOf rs
end

def typeOf : Reply → RType
  | .simple _ => .simple
  | .error _ => .error
  | .int _ => .integer
  | .bulk _ => .bulk
  | .array _ => .array

mutual
  /-- well-formed, lengths within int64, error lines the dissector accepts (a cluster
      redirection must carry its slot and target) -/
  def wfR : Reply → Bool
    | .simple s => noCRLF s
    | .error m => noCRLF m && !m.isEmpty && (match errorString m with | .ok _ => true | .error _ => false)
    | .int n => -9223372036854775808 ≤ n && n ≤ 9223372036854775807
    | .bulk none => true
    | .bulk (some b) => decide (b.length ≤ 9223372036854775807)
    | .array none => true
    | .array (some xs) => decide (xs.length ≤ 9223372036854775807) && wfRs xs
  def wfRs : List Reply → Bool
    | [] => true
    | r :: rs => wfR r && wfRs rs
end

mutual
  /-- fuel `process` needs (one per nesting level and per element) -/
  def need : Reply → Nat
    | .array (some xs) => 1 + needs xs
    | _ => 1
  def needs : List Reply → Nat
    | [] => 1
    | r :: rs => 1 + max (need r) (needs rs)
end

theorem need_pos (r : Reply) : 0 < need r := by unfold need; split <;> omega

theorem needs_pos (xs : List Reply) : 0 < needs xs := by unfold needs; split <;> omega

theorem noCRLF_ne_CR (s : Bytes) (h : noCRLF s = true) : ∀ b ∈ s, b ≠ CR := by
  intro b hb
  simp only [noCRLF, List.all_eq_true, Bool.and_eq_true, bne_iff_ne, ne_eq] at h
  exact (h b hb).1

theorem next_cons (b : UInt8) (r : Bytes) (tail : Tail) :
    next { rem := b :: r, tail } = .ok (b, { rem := r, tail }) := rfl

theorem valsOf_eq_map : ∀ xs : List Reply, valsOf xs = xs.map valOf
  | [] => by simp [valsOf]
  | _ :: rs => by simp [valsOf, valsOf_eq_map rs]

theorem wfRs_eq_all : ∀ xs : List Reply, wfRs xs = xs.all wfR
  | [] => by simp [wfRs]
  | _ :: rs => by simp [wfRs, wfRs_eq_all rs]

theorem valsOf_length : ∀ xs : List Reply, (valsOf xs).length = xs.length :=
  fun xs => by simp [valsOf_eq_map]

mutual
  /-- Every well-formed reply - any nesting, any bytes in bulk strings, any int64 - is read back as sent,
      whatever follows it on the stream. -/
  theorem c07_process_enc : ∀ (r : Reply), wfR r = true → ∀ (fuel : Nat), need r ≤ fuel → ∀ (rest : Bytes) (tail : Tail),
      process fuel { rem := encReply r ++ rest, tail } = .ok (valOf r, typeOf r, { rem := rest, tail })
    | r, _, 0, hf, _, _ => absurd hf (Nat.not_le.mpr (need_pos r))
    | .simple s, hw, f + 1, hf, rest, tail => by
      simp [process, encReply, crlf, next_cons, line_run s (noCRLF_ne_CR s (by simpa [wfR] using hw)), valOf, typeOf]
    | .error m, hw, f + 1, hf, rest, tail => by
      simp only [wfR, Bool.and_eq_true, Bool.not_eq_true'] at hw
      obtain ⟨⟨hcr, hne⟩, hok⟩ := hw
      have hne' : m ≠ [] := by intro h; simp [h] at hne
      cases he : errorString m with
      | error e => simp [he] at hok
      | ok v =>
        simp [process, encReply, crlf, next_cons, readLine, line_run m (noCRLF_ne_CR m hcr), hne', he, valOf, typeOf]
    | .int n, hw, f + 1, hf, rest, tail => by
      simp only [wfR, Bool.and_eq_true, decide_eq_true_eq] at hw
      simp [process, encReply, crlf, next_cons, readInt_run n hw.1 hw.2, valOf, typeOf]
    | .bulk none, hw, f + 1, hf, rest, tail => by
      simp [process, encReply, crlf, next_cons, readInt_run (-1) (by omega) (by omega), valOf, typeOf]
    | .bulk (some b), hw, f + 1, hf, rest, tail => by
      simp only [wfR, decide_eq_true_eq] at hw
      have hb := c07_bulk_binary_safe b rest tail
      simp only [List.append_assoc, CR, LF, List.cons_append, List.nil_append] at hb
      have hne : ¬ ((b.length : Int) = -1) := by omega
      simp [process, encReply, encBulk, crlf, next_cons, readInt_run (b.length : Int) (by omega) (by omega), hne, hb,
        valOf, typeOf]
    | .array none, hw, f + 1, hf, rest, tail => by
      simp [process, encReply, crlf, next_cons, readInt_run (-1) (by omega) (by omega), valOf, typeOf]
    | .array (some xs), hw, f + 1, hf, rest, tail => by
      simp only [wfR, Bool.and_eq_true, decide_eq_true_eq] at hw
      have hne : ¬ ((xs.length : Int) = -1) := by omega
      have hf' : needs xs ≤ f := by simp only [need] at hf; omega
      simp [process, encReply, crlf, next_cons, readInt_run (xs.length : Int) (by omega) (by omega), hne,
        c07_elems_enc xs hw.2 f hf' rest tail, valOf, typeOf]
  theorem c07_elems_enc : ∀ (xs : List Reply), wfRs xs = true → ∀ (fuel : Nat), needs xs ≤ fuel → ∀ (rest : Bytes) (tail : Tail),
      elems fuel xs.length { rem := encReplies xs ++ rest, tail } = .ok (valsOf xs, { rem := rest, tail })
    | xs, _, 0, hf, _, _ => absurd hf (Nat.not_le.mpr (needs_pos xs))
    | [], _, f + 1, _, rest, tail => by simp [elems, encReplies, valsOf]
    | r :: rs, hw, f + 1, hf, rest, tail => by
      simp only [wfRs, Bool.and_eq_true] at hw
      simp only [needs] at hf
      have h1 := c07_process_enc r hw.1 f (by omega) (encReplies rs ++ rest) tail
      have h2 := c07_elems_enc rs hw.2 f (by omega) rest tail
      simp only [List.length_cons, elems, encReplies, List.append_assoc, h1, h2, valsOf]
end

theorem encReply_pos : ∀ r : Reply, 1 ≤ (encReply r).length
  | .simple _ | .error _ | .int _ | .bulk none | .array none | .array (some _) => by simp [encReply]
  | .bulk (some _) => by simp [encReply, encBulk]

mutual
  theorem need_le : ∀ r : Reply, need r ≤ 2 * (encReply r).length
    | .simple _ | .error _ | .int _ | .bulk _ | .array none =>
      Nat.le_trans (by simp only [need]; omega) (Nat.mul_le_mul_left 2 (encReply_pos _))
    | .array (some xs) => by
      have := needs_le xs
      simp only [need, encReply, List.length_append, List.length_cons, List.length_nil, crlf]
      omega
  theorem needs_le : ∀ xs : List Reply, needs xs ≤ 2 * (encReplies xs).length + 1
    | [] => by simp [needs, encReplies]
    | r :: rs => by
      have h1 := need_le r
      have h2 := needs_le rs
      have h3 := encReply_pos r
      simp only [needs, encReplies, List.length_append]
      omega
end

/-- the packet the dissector hands to the matcher for a reply -/
def packetOf (r : Reply) : Packet :=
  match shape (valOf r) (typeOf r) with
  | .ok p => p
  | .error _ => default

/-- the reply is of a shape `RedisProtocol.Read` accepts (known findings: a simple string outside
    the keyword table and most non-empty arrays are not) -/
def reportable (r : Reply) : Bool :=
  match shape (valOf r) (typeOf r) with
  | .ok _ => true
  | .error _ => false

def encAll (rs : List Reply) : Bytes := (rs.map encReply).flatten

theorem encReplies_eq : ∀ xs : List Reply, encReplies xs = encAll xs
  | [] => by simp [encReplies, encAll]
  | r :: rs => by simp [encReplies, encAll, encReplies_eq rs]

theorem read_enc (r : Reply) (hw : wfR r = true) (hr : reportable r = true) (rest : Bytes) (tail : Tail)
    (fuel : Nat) (hf : need r ≤ fuel) :
    read fuel { rem := encReply r ++ rest, tail } = .ok (packetOf r, { rem := rest, tail }) := by
  unfold Redis.read
  rw [c07_process_enc r hw fuel hf rest tail]
  unfold reportable at hr
  unfold packetOf
  cases hs : shape (valOf r) (typeOf r) with
  | error e => simp [hs] at hr
  | ok p => simp [hs]

/-- Pipelined replies of any sizes: the matcher gets exactly one packet per reply, in order, none stops the
    ones after it, and the dissection ends with the stream's own end. -/
theorem c07_server_half : ∀ (rs : List Reply), (∀ r ∈ rs, wfR r = true ∧ reportable r = true) →
    ∀ (tail : Tail) (fuel : Nat), rs.length < fuel →
    dissect fuel { rem := encAll rs, tail } = (rs.map packetOf, ({ rem := [], tail } : St).endErr)
  | [], _, tail, f + 1, _ => by simp [dissect, encAll, Redis.read, process, next]
  | r :: rs, h, tail, f + 1, hf => by
    have ⟨hw, hr⟩ := h r (by simp)
    have hlen : need r ≤ 2 * (encReply r ++ encAll rs).length + 4 := by
      have := need_le r
      simp only [List.length_append]; omega
    have ih := c07_server_half rs (fun x hx => h x (by simp [hx])) tail f (by simp only [List.length_cons] at hf; omega)
    rw [show encAll (r :: rs) = encReply r ++ encAll rs from rfl,
      C01.c01_redis_prefix f _ _ _ (read_enc r hw hr (encAll rs) tail _ hlen), ih, List.map_cons]

theorem upper_eq (s : Bytes) : upperAscii s = upper s := rfl

theorem inTable_eq (tbl : List String) (s : Bytes) : Redis.inTable tbl s = Spec.inTable tbl s := rfl

theorem isInfix_mid (a m b : Bytes) : isInfix m (a ++ m ++ b) = true := by
  unfold isInfix
  simp only [List.any_eq_true, List.mem_range, beq_iff_eq]
  refine ⟨a.length, by simp only [List.length_append]; omega, ?_⟩
  simp [List.append_assoc]

/-- Replies are reported as sent (every kind outside the recorded findings): keywords, error lines (with
    their class prefix), integers, non-null bulk strings with whatever bytes, null and empty arrays. -/
theorem c07_reply_reported (r : Reply) (hw : wfR r = true) (hr : reportable r = true) (hk : tagsOfReply r = []) :
    respOk r (packetOf r) = true := by
  cases r with
  | simple s =>
    have hin : Spec.inTable Gen.Redis.keywords (upper s) = true := by
      by_cases h : Spec.inTable Gen.Redis.keywords (upper s) = true
      · exact h
      · simp [tagsOfReply, h] at hk
    simp [respOk, packetOf, valOf, typeOf, shape, upper_eq, inTable_eq, hin]
  | error m =>
    simp only [wfR, Bool.and_eq_true] at hw
    cases he : errorString m with
    | error e => simp [he] at hw
    | ok v =>
      obtain ⟨pre, post, rfl⟩ := Post.ok (errorString_post m) he
      simpa [respOk, packetOf, valOf, typeOf, shape, he] using isInfix_mid pre m post
  | int n => simp [respOk, packetOf, valOf, typeOf, shape, intBytes, dec]
  | bulk o =>
    cases o with
    | none => simp [tagsOfReply] at hk
    | some b => simp [respOk, packetOf, valOf, typeOf, shape]
  | array o =>
    cases o with
    | none => simp [respOk, packetOf, valOf, typeOf, shape]
    | some xs =>
      cases xs with
      | nil => simp [respOk, packetOf, valOf, valsOf, typeOf, shape]
      | cons x xs => simp [tagsOfReply] at hk

/-- a command is the array of its name and arguments as bulk strings -/
def cmdReply (c : Command) : Reply := .array (some (.bulk (some c.name) :: c.args.map fun a => .bulk (some a)))

theorem encCommand_eq (c : Command) : encCommand c = encReply (cmdReply c) := by
  simp [encCommand, cmdReply, encReply, encReplies_eq, encAll, Function.comp_def]

theorem encCommands_eq (cs : List Command) : (cs.map encCommand).flatten = encAll (cs.map cmdReply) := by
  rw [encAll, List.map_map, funext encCommand_eq]; rfl

theorem joinArgs_cons (a : Bytes) (more : List Bytes) :
    joinArgs (a :: more) = a ++ (more.map fun m => asciiBytes ", " ++ m).flatten := by
  induction more generalizing a with
  | nil => simp [joinArgs]
  | cons m ms ih => simp [joinArgs, ih m, asciiBytes]

theorem filterMap_bytes (f : RVal → Option Bytes) (hf : ∀ a, f (.bytes a false) = some a) (l : List Bytes) :
    List.filterMap (f ∘ fun a => RVal.bytes a false) l = l := by
  induction l with
  | nil => rfl
  | cons a as ih => simp [hf, ih]

theorem shape_command (name : Bytes) (args : List Bytes)
    (hin : Redis.inTable Gen.Redis.commands (upper name) = true) :
    ∃ p, shape (.arr (.bytes name false :: args.map fun a => .bytes a false) false) .array = .ok p ∧
      reqOk { name, args } p = true := by
  simp only [shape]
  rcases args with _ | ⟨k, _ | ⟨v, _ | ⟨w, more⟩⟩⟩ <;>
    simp [hin, reqOk, upper_eq, filterMap_bytes, joinArgs_cons, asciiBytes]

/-- Commands are reported as sent: for every name of the command table (in any case) and any number of
    arguments holding any bytes, the packet carries name, key and further arguments exactly. -/
theorem c07_command_reported (c : Command) (hin : Redis.inTable Gen.Redis.commands (upperAscii c.name) = true) :
    reportable (cmdReply c) = true ∧ reqOk c (packetOf (cmdReply c)) = true := by
  have hv : valOf (cmdReply c) = .arr (.bytes c.name false :: c.args.map fun a => RVal.bytes a false) false := by
    simp [cmdReply, valOf, valsOf_eq_map, Function.comp_def]
  obtain ⟨p, hp, hq⟩ := shape_command c.name c.args hin
  unfold reportable packetOf
  rw [hv, show typeOf (cmdReply c) = .array from rfl, hp]
  exact ⟨rfl, hq⟩

theorem wfR_cmdReply (c : Command) (hn : c.name.length ≤ 9223372036854775807)
    (ha : ∀ a ∈ c.args, a.length ≤ 9223372036854775807) (hl : c.args.length < 9223372036854775807) :
    wfR (cmdReply c) = true := by
  simp only [cmdReply, wfR, wfRs_eq_all, List.all_cons, List.all_map, Bool.and_eq_true, decide_eq_true_eq,
    List.length_cons, List.length_map, List.all_eq_true, Function.comp_apply]
  exact ⟨by omega, hn, ha⟩

/-- Pipelined commands: one packet per command, in order. -/
theorem c07_client_half (cs : List Command)
    (h : ∀ c ∈ cs, Redis.inTable Gen.Redis.commands (upperAscii c.name) = true ∧ c.name.length ≤ 9223372036854775807 ∧
      (∀ a ∈ c.args, a.length ≤ 9223372036854775807) ∧ c.args.length < 9223372036854775807)
    (tail : Tail) (fuel : Nat) (hf : cs.length < fuel) :
    dissect fuel { rem := (cs.map encCommand).flatten, tail } =
      (cs.map fun c => packetOf (cmdReply c), ({ rem := [], tail } : St).endErr) := by
  have := c07_server_half (cs.map cmdReply) (fun r hr => by
    obtain ⟨c, hc, rfl⟩ := List.mem_map.mp hr
    obtain ⟨h1, h2, h3, h4⟩ := h c hc
    exact ⟨wfR_cmdReply c h2 h3 h4, (c07_command_reported c h1).1⟩) tail fuel (by simpa using hf)
  rwa [← encCommands_eq, List.map_map] at this

/-- Non-vacuity: SET with a binary value, answered +OK; GET answered by a bulk string holding CR LF. -/
example : wfR (cmdReply { name := [83, 69, 84], args := [[107], [0, 13, 10, 255]] }) = true ∧
    wfR (.simple [79, 75]) = true ∧ wfR (.bulk (some [13, 10])) = true ∧ wfR (.array (some [.int (-5), .bulk none])) = true := by
  decide

end KsVerif.Proofs.C07

/-
  C07 on a whole conversation as the driver observes it (`observeConv`: both halves dissected with the fuel it
  really uses, the k-th command paired with the k-th reply).
-/
namespace KsVerif.Proofs.C07Conv
open KsVerif KsVerif.Redis KsVerif.Redis.Spec KsVerif.Proofs.C07

theorem encAll_len : ∀ rs : List Reply, rs.length ≤ (encAll rs).length :=
  fun rs => Lemmas.length_le_flatten encReply rs fun r _ => encReply_pos r

/-- The items observed are the commands sent paired with the replies sent, k-th with k-th, for every number of
    commands and replies and every value, binary or not. -/
theorem c07_conversation (cs : List Command) (rs : List Reply)
    (hc : ∀ c ∈ cs, Redis.inTable Gen.Redis.commands (upperAscii c.name) = true ∧ c.name.length ≤ 9223372036854775807 ∧
      (∀ a ∈ c.args, a.length ≤ 9223372036854775807) ∧ c.args.length < 9223372036854775807)
    (hr : ∀ r ∈ rs, wfR r = true ∧ reportable r = true) (ct st : Tail) :
    (Redis.Driver.observeConv ((cs.map encCommand).flatten) (encAll rs) ct st).2 =
      (cs.map fun c => packetOf (cmdReply c)).zip (rs.map packetOf) := by
  have hlc : cs.length ≤ ((cs.map encCommand).flatten).length := by
    rw [encCommands_eq]
    simpa using encAll_len (cs.map cmdReply)
  have hA := c07_client_half cs hc ct (((cs.map encCommand).flatten).length + 2) (by omega)
  have hB := c07_server_half rs hr st ((encAll rs).length + 2) (by have := encAll_len rs; omega)
  unfold Redis.Driver.observeConv dissectAll
  simp only [hA, hB]

end KsVerif.Proofs.C07Conv
