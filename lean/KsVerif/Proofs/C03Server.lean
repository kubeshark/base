/-
  C03, the server half.  Interim responses (1xx other than 101 Switching Protocols) in front of a final response are
  read and passed over, so the k-th response that counts - what `observe` pairs with the k-th request - is the k-th
  final response sent.  Bodies delimited by the end of the stream are left out (they can only end a half).
-/
import KsVerif.Proofs.C03

namespace KsVerif.Proofs.C03Server
open KsVerif KsVerif.Http KsVerif.Http.Wire KsVerif.Http.Spec KsVerif.Proofs.C03

/-- every pipelined sequence of well-formed responses whose bodies are delimited by length or chunks is read back as
    exactly those responses, in order: the k-th response parsed is the k-th response sent -/
theorem c03_server_half : ∀ (ms : List Msg), (∀ m ∈ ms, ∀ rest, WfResp m rest) → (∀ m ∈ ms, m.framing ≠ .close) →
    ∀ fuel, ms.length < fuel → parseAll false fuel ((ms.map encMsgCore).flatten) = ms.map parsedOf :=
  fun ms hw hnc => parseAll_flatten false parseResponse (fun _ => rfl) encMsgCore parsedOf ms fun m hm rest =>
    response_read m rest (hw m hm rest) (hnc m hm)

/-- the test `observe` applies: 1xx other than 101 -/
def isInterim (m : Message) : Bool := 100 ≤ m.status && m.status < 200 && m.status != 101

def interimStatus (st : Nat) : Prop := 100 ≤ st ∧ st < 200 ∧ st ≠ 101

theorem interimMsg_wf (st : Nat) (h : noBodyStatus st = true) (rest : Bytes) : WfResp (interimMsg st) rest :=
  ⟨rfl, (by decide : noByte 13 (bytesOfString "Interim")), Or.inr rfl, by intro h hh; simp [interimMsg] at hh,
    by intro x hx; simp [interimMsg] at hx, Or.inl ⟨h, rfl, rfl⟩, ⟨rfl, rfl⟩⟩

/-- a response with its interim responses, as separate messages -/
def expand (m : Msg) : List Msg := m.pre.map interimMsg ++ [m]

theorem encMsg_expand (m : Msg) : encMsg m = ((expand m).map encMsgCore).flatten := by
  unfold encMsg expand
  simp only [List.map_append, List.map_map, List.flatten_append, List.map_cons, List.map_nil, List.flatten_cons,
    List.flatten_nil, List.append_nil]
  rfl

theorem flatten_encMsg (ms : List Msg) : (ms.map encMsg).flatten = ((ms.flatMap expand).map encMsgCore).flatten := by
  induction ms with
  | nil => simp
  | cons m ms ih =>
    simp only [List.map_cons, List.flatten_cons, List.flatMap_cons, List.map_append, List.flatten_append, ih, encMsg_expand]

theorem isInterim_parsedOf (m : Msg) : isInterim (parsedOf m) = true ↔ interimStatus m.status := by
  unfold isInterim interimStatus parsedOf
  simp only [Bool.and_eq_true, bne_iff_ne, ne_eq, and_assoc]
  rw [decide_eq_true_iff, decide_eq_true_iff]

theorem filter_final {α : Type} (f : α → Msg) (xs : List α) (hf : ∀ x ∈ xs, ¬ interimStatus (f x).status) :
    (xs.map fun x => parsedOf (f x)).filter (fun x => !isInterim x) = xs.map fun x => parsedOf (f x) := by
  rw [List.filter_eq_self]
  intro y hy
  obtain ⟨x, hx, rfl⟩ := List.mem_map.mp hy
  simpa [← isInterim_parsedOf] using hf x hx

theorem filter_expand (m : Msg) (hp : ∀ st ∈ m.pre, interimStatus st) (hf : ¬ interimStatus m.status) :
    ((expand m).map parsedOf).filter (fun x => !isInterim x) = [parsedOf m] := by
  have h1 : ((m.pre.map interimMsg).map parsedOf).filter (fun x => !isInterim x) = [] := by
    rw [List.filter_eq_nil_iff]
    intro x hx
    obtain ⟨y, hy, rfl⟩ := List.mem_map.mp hx
    obtain ⟨st, hst, rfl⟩ := List.mem_map.mp hy
    simp [(isInterim_parsedOf (interimMsg st)).mpr (hp st hst)]
  rw [expand, List.map_append, List.filter_append, h1, List.nil_append]
  exact filter_final id [m] (by simpa using hf)

theorem expand_read (ms : List Msg) (hw : ∀ m ∈ ms, ∀ rest, WfResp m rest) (hnc : ∀ m ∈ ms, m.framing ≠ .close)
    (hp : ∀ m ∈ ms, ∀ st ∈ m.pre, interimStatus st) :
    ∀ x ∈ ms.flatMap expand, ∀ rest, parseResponse (encMsgCore x ++ rest) = some (parsedOf x, rest) := by
  intro x hx rest
  obtain ⟨m, hm, hxm⟩ := List.mem_flatMap.mp hx
  rcases List.mem_append.mp hxm with h | h
  · obtain ⟨st, hst, rfl⟩ := List.mem_map.mp h
    have h1 : st / 100 = 1 := by have := hp m hm st hst; unfold interimStatus at this; omega
    exact response_read _ rest (interimMsg_wf st (by simp [noBodyStatus, h1]) rest) (fun h => nomatch h)
  · cases List.mem_singleton.mp h
    exact response_read x rest (hw x hm rest) (hnc x hm)

theorem filter_flatMap_expand (ms : List Msg) (hp : ∀ m ∈ ms, ∀ st ∈ m.pre, interimStatus st)
    (hf : ∀ m ∈ ms, ¬ interimStatus m.status) :
    ((ms.flatMap expand).map parsedOf).filter (fun x => !isInterim x) = ms.map parsedOf := by
  induction ms with
  | nil => rfl
  | cons m ms ih =>
    rw [List.flatMap_cons, List.map_append, List.filter_append, filter_expand m (hp m (by simp)) (hf m (by simp)),
      ih (fun x hx => hp x (by simp [hx])) (fun x hx => hf x (by simp [hx]))]
    rfl

/-- a server half in which any final response is preceded by interim ones reads back, once those are passed over,
    as exactly the final responses, in order -/
theorem c03_server_half_interim (ms : List Msg) (hw : ∀ m ∈ ms, ∀ rest, WfResp m rest) (hnc : ∀ m ∈ ms, m.framing ≠ .close)
    (hp : ∀ m ∈ ms, ∀ st ∈ m.pre, interimStatus st) (hf : ∀ m ∈ ms, ¬ interimStatus m.status)
    (fuel : Nat) (hfuel : (ms.flatMap expand).length < fuel) :
    (parseAll false fuel ((ms.map encMsg).flatten)).filter (fun x => !isInterim x) = ms.map parsedOf := by
  rw [flatten_encMsg, parseAll_flatten false parseResponse (fun _ => rfl) encMsgCore parsedOf _ (expand_read ms hw hnc hp) fuel hfuel,
    filter_flatMap_expand ms hp hf]

theorem server_half_final {α : Type} (f : α → Msg) (xs : List α) (hw : ∀ x ∈ xs, ∀ rest, WfResp (f x) rest)
    (hnc : ∀ x ∈ xs, (f x).framing ≠ .close) (hf : ∀ x ∈ xs, ¬ interimStatus (f x).status) :
    (parseAll false (((xs.map fun x => encMsgCore (f x)).flatten).length + 1)
      ((xs.map fun x => encMsgCore (f x)).flatten)).filter (fun m => !isInterim m) = xs.map fun x => parsedOf (f x) := by
  rw [parseAll_flatten_bytes false parseResponse (fun _ => rfl) (fun x => encMsgCore (f x)) (fun x => parsedOf (f x)) xs
    fun x hx rest => response_read (f x) rest (hw x hx rest) (hnc x hx)]
  exact filter_final f xs hf

theorem observe_congr (cb sb sb' : Bytes)
    (h : (parseAll false (sb.length + 1) sb).filter (fun x => !isInterim x) =
      (parseAll false (sb'.length + 1) sb').filter (fun x => !isInterim x)) : observe cb sb = observe cb sb' := by
  unfold observe
  have h' : (parseAll false (sb.length + 1) sb).filter (fun m => !(100 ≤ m.status && m.status < 200 && m.status != 101)) =
      (parseAll false (sb'.length + 1) sb').filter (fun m => !(100 ≤ m.status && m.status < 200 && m.status != 101)) := h
  simp only [h']

/-- what is paired does not depend on interim responses: the dissection of a conversation whose server half carries
    them is that of the same conversation without them -/
theorem c03_observe_interim (cb : Bytes) (ms : List Msg) (hw : ∀ m ∈ ms, ∀ rest, WfResp m rest) (hnc : ∀ m ∈ ms, m.framing ≠ .close)
    (hp : ∀ m ∈ ms, ∀ st ∈ m.pre, interimStatus st) (hf : ∀ m ∈ ms, ¬ interimStatus m.status) :
    observe cb ((ms.map encMsg).flatten) = observe cb ((ms.map encMsgCore).flatten) := by
  apply observe_congr
  rw [flatten_encMsg, parseAll_flatten_bytes false parseResponse (fun _ => rfl) encMsgCore parsedOf _ (expand_read ms hw hnc hp),
    filter_flatMap_expand ms hp hf]
  exact (server_half_final id ms hw hnc hf).symm

example : interimStatus 100 ∧ interimStatus 103 ∧ ¬ interimStatus 101 ∧ ¬ interimStatus 200 := by
  unfold interimStatus; omega

end KsVerif.Proofs.C03Server
