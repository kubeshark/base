import KsVerif.Proofs.KafkaFrame

/-!
C01 for the Kafka dissector model.  The reader is reflective: `decodeFuncOf` panics on a field kind it cannot
decode.  The model makes that an outcome (`Stop.panic`), reached only when the layout selected for
(api key, version) holds such a kind.  The layouts are regenerated from the source on every run
(`GenKafkaLayouts`), so the statement is about today's structs.
-/

namespace KsVerif.Kafka
open KsVerif.Generated.Kafka

def layoutsSupported : Bool := layoutTable.all fun r =>
  (match r.2.1 with | some t => !t.hasUnsupported | none => true) &&
  (match r.2.2 with | some t => !t.hasUnsupported | none => true)

theorem layouts_supported : layoutsSupported = true := by decide +kernel

theorem lookup_supported (api ver : Int) :
    (∀ t, (lookupLayout api ver).1 = some t → t.hasUnsupported = false) ∧
    (∀ t, (lookupLayout api ver).2 = some t → t.hasUnsupported = false) := by
  unfold lookupLayout
  cases hf : layoutTable.find? (fun r => r.1.1 == api && r.1.2 == clampVer ver) with
  | none => simp
  | some r =>
    have hr := List.all_eq_true.mp layouts_supported r (List.mem_of_find?_eq_some hf)
    simp only [Bool.and_eq_true] at hr
    simp only [Option.map_some, Option.getD_some]
    exact ⟨fun t ht => by simpa [ht] using hr.1, fun t ht => by simpa [ht] using hr.2⟩

theorem readRequest_ne_panic (s : Bytes) : readRequest s ≠ .error .panic := by
  refine (Proofs.C06.readRequest_post s).cases (fun e he h => ?_) (fun _ _ => nofun)
  obtain ⟨api, ver, ty, hl, hu⟩ := he (Except.error.inj h)
  rw [(lookup_supported api ver).1 ty hl] at hu
  cases hu

theorem dissectClient_ne_panic (fuel : Nat) (s : Bytes) (acc : List Req) : (dissectClient fuel s acc).2 ≠ .panic := by
  fun_induction dissectClient fuel s acc with
  | case1 => nofun
  | case2 _ s _ e hr => exact fun he => readRequest_ne_panic s (hr.trans (congrArg _ he))
  | case3 _ _ _ _ _ _ ih => exact ih

theorem readResponse_ne_panic (open_ : List Req) (s : Bytes) : readResponse open_ s ≠ .error .panic := by
  refine (Proofs.C06.readResponse_post open_ s).cases (fun e he h => ?_) (fun _ _ => nofun)
  obtain ⟨api, ver, ty, hl, hu⟩ := he (Except.error.inj h)
  rw [(lookup_supported api ver).2 ty hl] at hu
  cases hu

theorem dissectServer_ne_panic (fuel : Nat) (s : Bytes) (open_ : List Req) (acc : List Item) :
    (dissectServer fuel s open_ acc).2.2 ≠ .panic := by
  fun_induction dissectServer fuel s open_ acc with
  | case1 => nofun
  | case2 _ s open_ _ e hr => exact fun he => readResponse_ne_panic open_ s (hr.trans (congrArg _ he))
  | case3 _ _ _ _ _ _ _ _ ih => exact ih

/-- C01, Kafka: whatever the two halves carry, neither dissection of the model ends in a panic -/
theorem c01_kafka_no_panic (cb sb : Bytes) (fc fs : Nat) :
    (dissectClient fc cb []).2 ≠ .panic ∧
    (dissectServer fs sb (dissectClient fc cb []).1 []).2.2 ≠ .panic :=
  ⟨dissectClient_ne_panic _ _ _, dissectServer_ne_panic _ _ _ _⟩

/-- not vacuous: the table has rows -/
example : layoutTable.length > 50 := by decide +kernel

end KsVerif.Kafka
