/-
  C09, the pairing keys.  `c09_pairing` is about keys: a request and a response meet iff they carry
  the same key.  That two different exchanges - of one connection, or of two dissected in the same
  process - never share a key is a fact about how keys are built: fmt.Sprintf with a format whose
  verbs are separated by underscores, from components that hold no underscore.  Splitting at the
  underscores then gives the components back, and the format strings regenerated from the source are
  evaluated to be of this kind.
  Modelled: fmt.Sprintf for %s and %d substitutes the text of its arguments for the verbs and copies
  the rest of the format.  Assumed: addresses, ports, decimal counters and ids hold no underscore.
-/
import KsVerif.Generated.GenKeyFormats

namespace KsVerif.Proofs.C09Keys

abbrev Str := List Char

/-- strings.Join(parts, "_") -/
def joinKey : List Str → Str
  | [] => []
  | [p] => p
  | p :: q :: rest => p ++ '_' :: joinKey (q :: rest)

def clean (p : Str) : Prop := '_' ∉ p

def splitUnderscore : Str → List Str
  | [] => [[]]
  | c :: rest =>
    match splitUnderscore rest with
    | [] => [[c]]        -- unreachable
    | p :: ps => if c = '_' then [] :: p :: ps else (c :: p) :: ps

theorem splitUnderscore_ne_nil : ∀ r, splitUnderscore r ≠ []
  | [] => by simp [splitUnderscore]
  | c :: r => by
    simp only [splitUnderscore]
    split
    · simp
    · split <;> simp

theorem splitUnderscore_clean (p : Str) (hp : clean p) : splitUnderscore p = [p] := by
  induction p with
  | nil => rfl
  | cons c p ih =>
    have hc : c ≠ '_' := fun e => hp (e ▸ List.mem_cons_self)
    simp only [splitUnderscore, ih fun h => hp (List.mem_cons_of_mem _ h), if_neg hc]

theorem splitUnderscore_clean_append (p : Str) (hp : clean p) (r : Str) :
    splitUnderscore (p ++ '_' :: r) = p :: splitUnderscore r := by
  induction p with
  | nil =>
    simp only [List.nil_append, splitUnderscore]
    split
    · exact absurd ‹_› (splitUnderscore_ne_nil r)
    · simp [*]
  | cons c p ih =>
    have hc : c ≠ '_' := fun e => hp (e ▸ List.mem_cons_self)
    simp only [List.cons_append, splitUnderscore, ih fun h => hp (List.mem_cons_of_mem _ h), if_neg hc]

theorem splitUnderscore_joinKey : ∀ (a : List Str), a ≠ [] → (∀ p ∈ a, clean p) →
    splitUnderscore (joinKey a) = a
  | [], h, _ => absurd rfl h
  | [p], _, ha => splitUnderscore_clean p (ha p (by simp))
  | p :: q :: rest, _, ha => by
    rw [joinKey, splitUnderscore_clean_append p (ha p (by simp)),
      splitUnderscore_joinKey (q :: rest) (by simp) fun x hx => ha x (List.mem_cons_of_mem _ hx)]

theorem joinKey_inj : ∀ (a b : List Str), a.length = b.length → (∀ p ∈ a, clean p) → (∀ p ∈ b, clean p) →
    joinKey a = joinKey b → a = b := by
  intro a b hl ha hb h
  by_cases e : a = []
  · subst e; exact (List.eq_nil_of_length_eq_zero hl.symm).symm
  · have e' : b ≠ [] := fun e' => e (List.eq_nil_of_length_eq_zero (by rw [hl, e']; rfl))
    rw [← splitUnderscore_joinKey a e ha, h, splitUnderscore_joinKey b e' hb]

inductive Part where
  | verb                -- %s or %d: the text of the next argument
  | lit (s : Str)       -- copied
  deriving DecidableEq, Repr

def partOf (piece : Str) : Option Part :=
  if piece = ['%', 's'] ∨ piece = ['%', 'd'] then some .verb
  else if '%' ∈ piece then none
  else some (.lit piece)

/-- a separated format: every piece between underscores is exactly one verb, or verb-free text -/
def parseFormat (fmt : String) : Option (List Part) := (splitUnderscore fmt.toList).mapM partOf

def separated (fmt : String) : Bool := (parseFormat fmt).isSome

/-- a verb takes the next argument -/
def pieces : List Part → List Str → List Str
  | [], _ => []
  | .verb :: ps, a :: as => a :: pieces ps as
  | .verb :: ps, [] => [] :: pieces ps []
  | .lit s :: ps, as => s :: pieces ps as

/-- fmt.Sprintf(format, args...) for a separated format -/
def render (ps : List Part) (args : List Str) : Str := joinKey (pieces ps args)

def verbs : List Part → Nat
  | [] => 0
  | .verb :: ps => verbs ps + 1
  | .lit _ :: ps => verbs ps

def litsClean : List Part → Prop
  | [] => True
  | .verb :: ps => litsClean ps
  | .lit s :: ps => clean s ∧ litsClean ps

theorem pieces_length (ps : List Part) (as : List Str) : (pieces ps as).length = ps.length := by
  fun_induction pieces ps as <;> simp [*]

theorem pieces_clean : ∀ (ps : List Part) (as : List Str), litsClean ps → (∀ a ∈ as, clean a) → ∀ p ∈ pieces ps as, clean p
  | [], _, _, _ => nofun
  | .verb :: ps, a :: as, hl, ha =>
    List.forall_mem_cons.mpr ⟨ha a List.mem_cons_self, pieces_clean ps as hl fun x hx => ha x (List.mem_cons_of_mem _ hx)⟩
  | .verb :: ps, [], hl, ha => List.forall_mem_cons.mpr ⟨nofun, pieces_clean ps [] hl ha⟩
  | .lit _ :: ps, as, hl, ha => List.forall_mem_cons.mpr ⟨hl.1, pieces_clean ps as hl.2 ha⟩

theorem pieces_inj (ps : List Part) : ∀ (a b : List Str), a.length = verbs ps → b.length = verbs ps →
    pieces ps a = pieces ps b → a = b := by
  induction ps with
  | nil =>
    intro a b ha hb _
    rw [List.eq_nil_of_length_eq_zero ha, List.eq_nil_of_length_eq_zero hb]
  | cons p ps ih =>
    intro a b ha hb h
    cases p with
    | lit s => exact ih a b ha hb (List.cons.inj h).2
    | verb =>
      obtain ⟨x, a, rfl⟩ := List.exists_cons_of_length_eq_add_one ha
      obtain ⟨y, b, rfl⟩ := List.exists_cons_of_length_eq_add_one hb
      obtain ⟨rfl, h'⟩ := List.cons.inj h
      rw [ih a b (Nat.succ.inj ha) (Nat.succ.inj hb) h']

/-- For a separated format with underscore-free literal pieces, and arguments that hold no underscore,
    equal keys mean equal arguments: two exchanges that differ in connection or ordinal never share a key. -/
theorem render_inj (ps : List Part) (hl : litsClean ps) (a b : List Str)
    (ha : a.length = verbs ps) (hb : b.length = verbs ps) (hca : ∀ x ∈ a, clean x) (hcb : ∀ x ∈ b, clean x)
    (h : render ps a = render ps b) : a = b := by
  unfold render at h
  have := joinKey_inj (pieces ps a) (pieces ps b) (by rw [pieces_length, pieces_length])
    (pieces_clean ps a hl hca) (pieces_clean ps b hl hcb) h
  exact pieces_inj ps a b ha hb this

def litsCleanB : List Part → Bool
  | [] => true
  | .verb :: ps => litsCleanB ps
  | .lit s :: ps => !s.contains '_' && litsCleanB ps

theorem litsCleanB_sound : ∀ ps, litsCleanB ps = true → litsClean ps
  | [], _ => trivial
  | .verb :: ps, h => litsCleanB_sound ps (by simpa [litsCleanB] using h)
  | .lit s :: ps, h => by
    simp only [litsCleanB, Bool.and_eq_true, Bool.not_eq_true'] at h
    refine ⟨?_, litsCleanB_sound ps h.2⟩
    intro hm
    have : s.contains '_' = true := by simpa using hm
    rw [this] at h
    exact absurd h.1 (by simp)

/-- every key-like format of the dissectors (regenerated list) is separated, with underscore-free
    literal pieces: `render_inj` applies to each -/
theorem c09_key_formats_applicable :
    Gen.KeyFormats.formats.all (fun f => match parseFormat f.2 with | some ps => litsCleanB ps | none => false) = true := by decide +kernel

/-- every key-like format of the dissectors separates its verbs by underscores -/
theorem c09_key_formats_separated : Gen.KeyFormats.formats.all (fun f => separated f.2) = true :=
  List.all_eq_true.mpr fun f hf => by
    have := List.all_eq_true.mp c09_key_formats_applicable f hf
    unfold separated
    split at this
    · simp [*]
    · cases this

/-- every dissector that pairs through a matcher builds its keys with such a format -/
theorem c09_key_formats_present :
    ["amqp", "http", "kafka", "redis"].all (fun p => Gen.KeyFormats.formats.any (fun f => f.1 == p)) = true := by decide

/-- the Redis key format, rendered -/
example : (parseFormat "%s_%s_%s_%s_%d").map (fun ps => String.ofList (render ps
    ["10.0.0.1".toList, "10.0.0.2".toList, "40000".toList, "6379".toList, "11".toList])) = some "10.0.0.1_10.0.0.2_40000_6379_11" := by
  decide +kernel

/-- a verb appended without its underscore: not separated -/
example : separated "%s_%s_%s_%s%d" = false := by decide

end KsVerif.Proofs.C09Keys
