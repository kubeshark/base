/-
  C09 — requests are paired with the responses that answer them, once.
  `Inv st seen` ties the matcher's state to the ghost history `seen` consumed so far (no message twice):
  the state depends only on the set of messages seen, whence the independence of arrival order.
-/
import KsVerif.Match.Model
import KsVerif.Proofs.Lemmas

namespace KsVerif.Match

theorem Side.eq_or_eq_other (s t : Side) : t = s ∨ t = s.other :=
  (Decidable.em (t = s)).imp_right Side.eq_other_of_ne

end KsVerif.Match

namespace KsVerif.Proofs.C09
open KsVerif.Match

variable {κ : Type} [DecidableEq κ]

structure Inv (st : State κ) (seen : List (κ × Side)) : Prop where
  held : ∀ k s, st.map k = some s ↔ ((k, s) ∈ seen ∧ (k, s.other) ∉ seen)
  emitted : ∀ k, k ∈ st.emitted ↔ ((k, Side.req) ∈ seen ∧ (k, Side.resp) ∈ seen)
  nodup : st.emitted.Nodup

theorem inv_init : Inv (State.init : State κ) [] :=
  ⟨by simp [State.init, Map.empty], by simp [State.init], by simp [State.init]⟩

theorem Inv.held_new {st : State κ} {seen : List (κ × Side)} (hi : Inv st seen) {k : κ} {s : Side}
    (hnew : (k, s) ∉ seen) : st.map k = if (k, s.other) ∈ seen then some s.other else none := by
  split
  · next hc => exact (hi.held k s.other).mpr ⟨hc, by simpa using hnew⟩
  · next hc =>
    cases hm : st.map k with
    | none => rfl
    | some t =>
      have ht := ((hi.held k t).mp hm).1
      rcases s.eq_or_eq_other t with rfl | rfl
      · exact absurd ht hnew
      · exact absurd ht hc

theorem both_seen_iff {seen : List (κ × Side)} {k : κ} (s : Side) :
    ((k, Side.req) ∈ seen ∧ (k, Side.resp) ∈ seen) ↔ ((k, s) ∈ seen ∧ (k, s.other) ∈ seen) := by
  cases s <;> simp [Side.other, and_comm]

theorem register_new {st : State κ} {seen : List (κ × Side)} (hi : Inv st seen) {k : κ} {s : Side}
    (hnew : (k, s) ∉ seen) : register st k s =
      { map := st.map.set k (if (k, s.other) ∈ seen then none else some s),
        emitted := if (k, s.other) ∈ seen then st.emitted ++ [k] else st.emitted } := by
  unfold register
  rw [hi.held_new hnew]
  by_cases c : (k, s.other) ∈ seen <;> simp [c]

theorem inv_step {st : State κ} {seen : List (κ × Side)} (hi : Inv st seen) (k : κ) (s : Side)
    (hnew : (k, s) ∉ seen) : Inv (register st k s) (seen ++ [(k, s)]) := by
  have hk : k ∉ st.emitted := fun h => hnew ((both_seen_iff s).mp ((hi.emitted k).mp h)).1
  rw [register_new hi hnew]
  refine ⟨fun k' s' => ?_, fun k' => ?_, ?_⟩
  · by_cases e : k' = k
    · subst e
      rcases s.eq_or_eq_other s' with rfl | rfl
      · -- the arriving side: held iff its counterpart has not been seen
        simp [Map.set, hnew]
      · -- the counterpart: released if it was held
        simp [Map.set, hnew]
    · simp [Map.set, e, hi.held]
  · by_cases e : k' = k
    · subst e
      rw [both_seen_iff s]
      split <;> rename_i c <;> simp [c, hk, hnew]
    · split <;> simp [e, hi.emitted]
  · split
    · exact Lemmas.nodup_concat hi.nodup hk
    · exact hi.nodup

theorem inv_run (h : List (κ × Side)) : ∀ (st : State κ) (seen : List (κ × Side)),
    Inv st seen → (seen ++ h).Nodup → Inv (run st h) (seen ++ h) := by
  induction h with
  | nil => intro st seen hi _; simpa [run] using hi
  | cons x h ih =>
    intro st seen hi hnd
    obtain ⟨k, s⟩ := x
    have hnew : (k, s) ∉ seen := fun hc =>
      (List.nodup_append.mp hnd).2.2 _ hc _ List.mem_cons_self rfl
    have := ih (register st k s) (seen ++ [(k, s)]) (inv_step hi k s hnew) (by simpa using hnd)
    simpa [run] using this

/-- Whatever the order in which the messages reach the matcher, each once (so for every merge of the
    client and server halves of any number of connections): a pair is emitted exactly for the keys
    whose request and response both arrived, none twice, and the map keeps the unanswered rest. -/
theorem c09_pairing (h : List (κ × Side)) (hnd : h.Nodup) :
    let st := run (State.init : State κ) h
    (∀ k, k ∈ st.emitted ↔ ((k, Side.req) ∈ h ∧ (k, Side.resp) ∈ h)) ∧
    st.emitted.Nodup ∧
    (∀ k s, st.map k = some s ↔ ((k, s) ∈ h ∧ (k, s.other) ∉ h)) := by
  have := inv_run h State.init [] inv_init (by simpa using hnd)
  simp only [List.nil_append] at this
  exact ⟨this.emitted, this.nodup, this.held⟩

/-- Histories with the same messages emit the same set of pairs and leave the same residue. -/
theorem c09_order_independent (h₁ h₂ : List (κ × Side)) (hnd₁ : h₁.Nodup) (hnd₂ : h₂.Nodup)
    (hperm : ∀ x, x ∈ h₁ ↔ x ∈ h₂) :
    (∀ k, k ∈ (run (State.init : State κ) h₁).emitted ↔ k ∈ (run (State.init : State κ) h₂).emitted) ∧
    (∀ k, (run (State.init : State κ) h₁).map k = (run (State.init : State κ) h₂).map k) := by
  have a := c09_pairing h₁ hnd₁
  have b := c09_pairing h₂ hnd₂
  refine ⟨fun k => ?_, fun k => Option.ext fun s => ?_⟩
  · rw [a.1 k, b.1 k, hperm, hperm]
  · rw [a.2.2 k s, b.2.2 k s, hperm, hperm]

/-- response before request, two interleaved exchanges -/
example : (run (State.init : State Nat) [(1, .resp), (2, .req), (1, .req), (2, .resp)]).emitted = [1, 2] := by
  decide

end KsVerif.Proofs.C09
