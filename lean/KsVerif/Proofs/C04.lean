/-
  C04: HTTP/2 and gRPC streams are reassembled and reported exactly.

  Frame parsing and HPACK (golang.org/x/net/http2) are library code: the model starts from decoded frames, and the
  harness encodes the same abstract frames with that library (one HPACK encoder per half, CONTINUATION splits,
  interleaved streams, non-message frames).  Proved over the assembler and matcher models: streams do not mix, the
  1 MiB cap, nothing is assembled before END_STREAM, the gRPC flag.
-/
import KsVerif.Http.H2

namespace KsVerif.Proofs.C04
open KsVerif.Http KsVerif.Http.H2

def onSid (sid : Nat) (g : Fragment) : Bool := g.sid == sid

theorem filter_map_sid (frags : List Fragment) (sid : Nat) (f : Fragment → Fragment) (hf : ∀ g, (f g).sid = g.sid) :
    (frags.map f).filter (·.sid == sid) = (frags.filter (·.sid == sid)).map f := by
  rw [List.filter_map]
  congr 1
  exact List.filter_congr fun g _ => by simp [hf]

theorem any_filter_self {α : Type} (p : α → Bool) (l : List α) : (l.filter p).any p = l.any p := by
  simp [List.any_filter]

theorem find?_filter_self {α : Type} (p : α → Bool) (l : List α) : (l.filter p).find? p = l.find? p := by
  rw [List.find?_filter]
  congr 1
  funext x
  simp

theorem appendFrame_same (frags : List Fragment) (f : Frame) :
    (appendFrame frags f).filter (·.sid == frameSid f) = appendFrame (frags.filter (·.sid == frameSid f)) f := by
  cases f with
  | other s => rfl
  | headers s _ _ | data s _ _ =>
    simp only [frameSid, appendFrame, any_filter_self]
    split
    · exact filter_map_sid frags s _ fun g => by split <;> rfl
    · simp [List.filter_append]

theorem appendFrame_other (frags : List Fragment) (f : Frame) (sid : Nat) (h : frameSid f ≠ sid) :
    (appendFrame frags f).filter (·.sid == sid) = frags.filter (·.sid == sid) := by
  cases f with
  | other s => rfl
  | headers s _ _ | data s _ _ =>
    simp only [frameSid] at h
    simp only [appendFrame]
    split
    · rw [filter_map_sid frags sid _ fun g => by split <;> rfl]
      refine (List.map_congr_left fun g hg => ?_).trans (List.map_id _)
      have hs : g.sid = sid := by simpa using (List.mem_filter.mp hg).2
      simp [hs, Ne.symm h]
    · simp [List.filter_append, h]

theorem filter_drop_other (frags : List Fragment) (sid s' : Nat) (h : s' ≠ sid) :
    (frags.filter (·.sid != s')).filter (·.sid == sid) = frags.filter (·.sid == sid) := by
  rw [List.filter_filter]
  apply List.filter_congr
  intro g _
  by_cases hg : g.sid = sid <;> simp [hg, Ne.symm h]

theorem filter_not_filter {α : Type} (p : α → Bool) (l : List α) :
    (l.filter p).filter (!p ·) = [] ∧ (l.filter (!p ·)).filter p = [] := by
  simp [List.filter_filter, List.filter_eq_nil_iff]

/-- the messages a stream gives when it ends: one, or none if its fields name neither a method nor a status -/
def emit (sid : Nat) (g : Fragment) : List Msg :=
  let method := headerGet g.headers ":method"
  let status := headerGet g.headers ":status"
  if method != [] then
    [{ sid, isRequest := true, method, headers := g.headers, data := g.data, isGrpc := grpcMarked g.headers }]
  else if status != [] then
    match decNat? status with
    | some code => [{ sid, isRequest := false, status := code, headers := g.headers, data := g.data, isGrpc := grpcMarked g.headers }]
    | none => []
  else []

theorem assemble_cons (frags : List Fragment) (f : Frame) (rest : List Frame) :
    assemble frags (f :: rest) =
      if isStreamEnd f then
        match (appendFrame frags f).find? (·.sid == frameSid f) with
        | none => assemble (appendFrame frags f) rest
        | some g => emit (frameSid f) g ++ assemble ((appendFrame frags f).filter (·.sid != frameSid f)) rest
      else assemble (appendFrame frags f) rest := by
  by_cases he : isStreamEnd f = true
  · simp only [assemble, he, if_true]
    cases (appendFrame frags f).find? (·.sid == frameSid f) with
    | none => rfl
    | some g =>
      simp only [emit]
      split
      · rfl
      · split
        · cases decNat? (headerGet g.headers ":status") <;> rfl
        · rfl
  · simp only [assemble, he, Bool.false_eq_true, if_false]

theorem mem_emit (sid : Nat) (g : Fragment) : ∀ m ∈ emit sid g, m.sid = sid ∧ m.data = g.data := by
  intro m hm
  unfold emit at hm
  simp only at hm
  split at hm
  · simp only [List.mem_singleton] at hm
    subst hm
    exact ⟨rfl, rfl⟩
  · split at hm
    · split at hm
      · simp only [List.mem_singleton] at hm
        subst hm
        exact ⟨rfl, rfl⟩
      · cases hm
    · cases hm

theorem emit_filter (s sid : Nat) (g : Fragment) :
    (emit s g).filter (fun m => m.sid == sid) = if s = sid then emit s g else [] := by
  by_cases h : s = sid
  · rw [if_pos h, List.filter_eq_self]
    intro m hm; simp [(mem_emit s g m hm).1, h]
  · rw [if_neg h, List.filter_eq_nil_iff]
    intro m hm; simp [(mem_emit s g m hm).1, h]

/-- for every interleaving of the frames of any number of streams, the messages assembled for stream `sid` are those
    assembled from the frames of `sid` alone: nothing of another stream - header field, data byte, timing - can show
    up in them -/
theorem c04_stream_isolation (sid : Nat) (fs : List Frame) : ∀ (frags : List Fragment),
    (assemble frags fs).filter (fun m => m.sid == sid)
      = assemble (frags.filter (onSid sid)) (fs.filter fun f => frameSid f == sid) := by
  -- `onSid sid` is `(·.sid == sid)`, the spelling of the model and of the lemmas
  show ∀ frags : List Fragment, _ = assemble (frags.filter (·.sid == sid)) _
  induction fs with
  | nil => intro frags; simp [assemble]
  | cons f rest ih =>
    intro frags
    rw [assemble_cons]
    by_cases hs : frameSid f = sid
    · subst hs
      simp only [List.filter_cons, beq_self_eq_true, if_true]
      rw [assemble_cons, ← appendFrame_same, find?_filter_self]
      split
      · cases (appendFrame frags f).find? (·.sid == frameSid f) with
        | none => exact ih _
        | some g =>
          have hp := filter_not_filter (·.sid == frameSid f) (appendFrame frags f)
          simp only [List.filter_append, emit_filter, if_true, ih, bne, hp.1, hp.2]
      · exact ih _
    · have hf : (frameSid f == sid) = false := by simp [hs]
      simp only [List.filter_cons, hf, Bool.false_eq_true, if_false]
      split
      · cases (appendFrame frags f).find? (·.sid == frameSid f) with
        | none => simp only [ih, appendFrame_other frags f sid hs]
        | some g =>
          simp only [List.filter_append, emit_filter, if_neg hs, List.nil_append, ih, filter_drop_other _ sid _ hs,
            appendFrame_other frags f sid hs]
      · rw [ih, appendFrame_other frags f sid hs]

theorem appendFrame_cap (frags : List Fragment) (f : Frame) (h : ∀ g ∈ frags, g.data.length ≤ maxData) :
    ∀ g ∈ appendFrame frags f, g.data.length ≤ maxData := by
  intro g hg
  cases f with
  | other s => exact h g hg
  | headers s fields e =>
    simp only [appendFrame] at hg
    split at hg
    · simp only [List.mem_map] at hg
      obtain ⟨g0, hg0, rfl⟩ := hg
      split <;> exact h g0 hg0
    · simp only [List.mem_append, List.mem_singleton] at hg
      rcases hg with hg | rfl
      · exact h g hg
      · simp [maxData]
  | data s p e =>
    simp only [appendFrame] at hg
    split at hg
    · simp only [List.mem_map] at hg
      obtain ⟨g0, hg0, rfl⟩ := hg
      have := h g0 hg0
      split
      · simp only [List.length_append, List.length_take]; omega
      · exact this
    · simp only [List.mem_append, List.mem_singleton] at hg
      rcases hg with hg | rfl
      · exact h g hg
      · simp [List.length_take]; omega

/-- whatever frames arrive, in whatever order and however large, an assembled message holds at most 1 MiB of data -/
theorem c04_cap (fs : List Frame) : ∀ (frags : List Fragment), (∀ g ∈ frags, g.data.length ≤ maxData) →
    ∀ m ∈ assemble frags fs, m.data.length ≤ maxData := by
  induction fs with
  | nil => intro frags _ m hm; simp [assemble] at hm
  | cons f rest ih =>
    intro frags h m hm
    have h' := appendFrame_cap frags f h
    rw [assemble_cons] at hm
    split at hm
    · split at hm
      · exact ih _ h' m hm
      · next g hfind =>
        rcases List.mem_append.mp hm with hm | hm
        · rw [(mem_emit _ g m hm).2]
          exact h' g (List.mem_of_find?_eq_some hfind)
        · exact ih _ (fun x hx => h' x (List.mem_filter.mp hx).1) m hm
    · exact ih _ h' m hm

/-- the assembler hands over a message only when a frame carries END_STREAM: before that, whatever has arrived stays
    in the fragments -/
theorem c04_no_message_before_end (fs : List Frame) (h : ∀ f ∈ fs, isStreamEnd f = false) :
    ∀ frags, assemble frags fs = [] := by
  induction fs with
  | nil => intro frags; rfl
  | cons f rest ih =>
    intro frags
    have hf := h f (by simp)
    simp only [assemble, hf, Bool.false_eq_true, if_false]
    exact ih (fun x hx => h x (by simp [hx])) _

/-- what the matcher keeps true, for any `Q` that holds of the messages coming in -/
def PairInv (Q : Msg → Prop) (acc : List Item × List Msg) : Prop :=
  (∀ o ∈ acc.2, Q o) ∧ ∀ it ∈ acc.1, Q it.request ∧ Q it.response ∧ it.grpc = (it.request.isGrpc || it.response.isGrpc)

/-- an item is only ever made of the message coming in and an open one -/
theorem register_inv (Q : Msg → Prop) (acc : List Item × List Msg) (m : Msg) (hm : Q m) (h : PairInv Q acc) :
    PairInv Q (register acc m) := by
  unfold register
  cases hf : acc.2.find? (·.sid == m.sid) with
  | none =>
    refine ⟨fun o ho => ?_, h.2⟩
    rcases List.mem_append.mp ho with ho | ho
    · exact h.1 o ho
    · cases List.mem_singleton.mp ho; exact hm
  | some o =>
    have ho := h.1 o (List.mem_of_find?_eq_some hf)
    have hrest : ∀ x ∈ acc.2.filter (·.sid != m.sid), Q x := fun x hx => h.1 x (List.mem_filter.mp hx).1
    have hnew : ∀ (new : Item), (Q new.request ∧ Q new.response ∧ new.grpc = (new.request.isGrpc || new.response.isGrpc)) →
        PairInv Q (acc.1 ++ [new], acc.2.filter (·.sid != m.sid)) := by
      refine fun new hn => ⟨hrest, fun it hit => ?_⟩
      rcases List.mem_append.mp hit with hit | hit
      · exact h.2 it hit
      · cases List.mem_singleton.mp hit; exact hn
    simp only
    split
    · exact ⟨hrest, h.2⟩
    · split
      · exact hnew _ ⟨hm, ho, rfl⟩
      · exact hnew _ ⟨ho, hm, Bool.or_comm _ _⟩

theorem pair_inv (Q : Msg → Prop) (ms : List Msg) (hQ : ∀ m ∈ ms, Q m) : PairInv Q (ms.foldl register ([], [])) :=
  List.foldlRecOn ms register ⟨by simp, by simp⟩ fun acc h m hm => register_inv Q acc m (hQ m hm) h

/-- **C04 (gRPC).** Every item the pairing produces is classified gRPC exactly when its
    request or its response carries a gRPC content type or a grpc-status field. -/
theorem c04_grpc_iff (reqs resps : List Msg)
    (hq : ∀ q ∈ reqs, q.isGrpc = grpcMarked q.headers) (hr : ∀ r ∈ resps, r.isGrpc = grpcMarked r.headers) :
    ∀ it ∈ (pair reqs resps).1, it.grpc = (grpcMarked it.request.headers || grpcMarked it.response.headers) := by
  intro it hit
  obtain ⟨hq', hr', hg⟩ := (pair_inv (fun m => m.isGrpc = grpcMarked m.headers) (reqs ++ resps)
    fun m hm => (List.mem_append.mp hm).elim (hq m) (hr m)).2 it hit
  rw [hg, hq', hr']

end KsVerif.Proofs.C04
