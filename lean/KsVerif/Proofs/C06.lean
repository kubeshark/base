/-
  C06 — Kafka requests and responses are decoded exactly and stay in frame.

  Model: `Kafka.decode` (the reflective decoder of decode.go) over `Generated.Kafka.layoutTable`, the layouts
  the running dissector selects per (api key, version), re-extracted on every run; `readRequest` /
  `readResponse`.  Reference: `Generated.KafkaProtocol.protoTable`, the wire schemas of
  github.com/segmentio/kafka-go/protocol, and `Spec.enc`, the encoder over them.  Proved: the decoder inverts
  the encoder on every conforming value; layouts with the normal form of the reference schema decode every
  input alike; `c06_table` decides which rows are such.  Partial: the rows in `deviations` (known findings)
  and flexible versions, which the dissector has no compact encodings for.
-/
import KsVerif.Kafka.Compat
import KsVerif.Proofs.KafkaFrame
import KsVerif.Proofs.Lemmas

namespace KsVerif.Proofs.C06
open KsVerif KsVerif.Kafka

open KsVerif.Kafka.Spec

theorem beNat_be (n v : Nat) : beNat (be n v) = v % 256 ^ n := Lemmas.beNat_be n v

theorem encInt_length (k : Nat) (i : Int) : (encInt k i).length = k := Lemmas.be_length k _

/-- the state in front of an encoding followed by `rest`, with `k` more bytes in the message -/
def before (bs rest : Bytes) (k : Nat) : D := { stream := bs ++ rest, remain := bs.length + k, err := false }
def after (rest : Bytes) (k : Nat) : D := { stream := rest, remain := k, err := false }

theorem before_append (a b rest : Bytes) (k : Nat) :
    before (a ++ b) rest k = before a (b ++ rest) (b.length + k) := by
  simp [before, List.append_assoc, Nat.add_assoc]

theorem before_nil (rest : Bytes) (k : Nat) : before [] rest k = after rest k := by simp [before, after]

/-! Every reader lemma has one form, so that they chain by rewriting alone: in front of `enc ++ tl` (the
    encoding, then whatever else the message holds) the reader returns the value and the state in front of `tl`. -/

theorem readFull_peel (bs tl rest : Bytes) (k : Nat) :
    readFull bs.length (before (bs ++ tl) rest k) = (some bs, before tl rest k) := by
  rw [before_append]
  unfold readFull before
  by_cases h : bs.length = 0
  · have : bs = [] := List.length_eq_zero_iff.mp h
    subst this
    simp
  · simp [h]

theorem readN_peel (bs tl rest : Bytes) (k : Nat) :
    readN bs.length (before (bs ++ tl) rest k) = (bs, before tl rest k) := by
  rw [before_append]
  unfold readN before
  have h1 : min bs.length (bs.length + (tl.length + k)) = bs.length := by omega
  simp [h1]

theorem toSigned_emod {b : Nat} (hb : 0 < b) {i : Int} (hi : inRange b i = true) :
    toSigned b (i % ((2 ^ b : Nat) : Int)).toNat = i := by
  obtain ⟨h, rfl⟩ : ∃ h, b = h + 1 := ⟨b - 1, by omega⟩
  unfold inRange at hi
  simp only [Bool.and_eq_true, decide_eq_true_eq, Nat.add_sub_cancel] at hi
  unfold toSigned
  simp only [Nat.add_sub_cancel, Nat.pow_succ]
  generalize 2 ^ h = m at *
  by_cases hneg : i < 0
  · have : i % ((m * 2 : Nat) : Int) = i + (m * 2 : Nat) := by
      rw [← Int.add_emod_right, Int.emod_eq_of_lt (by omega) (by omega)]
    rw [this, if_neg (by omega)]
    omega
  · rw [Int.emod_eq_of_lt (by omega) (by omega), if_pos (by omega)]
    omega

theorem readInt_peel {w : Nat} (hw : 0 < w) {i : Int} (hi : inRange (8 * w) i = true) (tl rest : Bytes) (k : Nat) :
    readInt w (before (encInt w i ++ tl) rest k) = (i, before tl rest k) := by
  have hfull := readFull_peel (encInt w i) tl rest k
  rw [encInt_length] at hfull
  have hlt : (i % ((256 ^ w : Nat) : Int)).toNat < 256 ^ w := by
    have := Int.emod_lt_of_pos i (show (0 : Int) < ((256 ^ w : Nat) : Int) by exact_mod_cast Nat.pow_pos (by decide))
    have := Int.emod_nonneg i (show ((256 ^ w : Nat) : Int) ≠ 0 by exact_mod_cast Nat.ne_of_gt (Nat.pow_pos (by decide)))
    omega
  have h256 : (256 : Nat) ^ w = 2 ^ (8 * w) := (Nat.pow_mul 2 8 w).symm
  rw [readInt, hfull]
  simp only [encInt, beNat_be, Nat.mod_eq_of_lt hlt]
  rw [h256, toSigned_emod (by omega) hi]

theorem readByte_peel (x : UInt8) (tl rest : Bytes) (k : Nat) :
    readByte (before (x :: tl) rest k) = (x.toNat, before tl rest k) := by
  rw [readByte, show (1 : Nat) = [x].length from rfl, show x :: tl = [x] ++ tl from rfl, readFull_peel]

theorem inRange_natCast {bits n : Nat} (h : n < 2 ^ (bits - 1)) : inRange bits (n : Int) = true := by
  unfold inRange
  simp only [Bool.and_eq_true, decide_eq_true_eq]
  exact ⟨by omega, by exact_mod_cast h⟩

theorem readString_peel {b : Bytes} (hb : b.length < 32768) (tl rest : Bytes) (k : Nat) :
    readString (before (encInt 2 b.length ++ (b ++ tl)) rest k) = (.str b, before tl rest k) := by
  simp only [readString, readInt_peel (w := 2) (by decide) (inRange_natCast hb), Int.toNat_natCast, readN_peel,
    if_neg (Int.not_lt.mpr (Int.natCast_nonneg _))]

theorem readString_null_peel (tl rest : Bytes) (k : Nat) :
    readString (before (encInt 2 (-1) ++ tl) rest k) = (.str [], before tl rest k) := by
  simp only [readString, readInt_peel (w := 2) (i := -1) (by decide) (by decide)]
  rfl

theorem readBytesV_peel {b : Bytes} (hb : b.length < 2 ^ 31) (tl rest : Bytes) (k : Nat) :
    readBytesV (before (encInt 4 b.length ++ (b ++ tl)) rest k) = (.bytes (some b), before tl rest k) := by
  simp only [readBytesV, readInt_peel (w := 4) (by decide) (inRange_natCast hb), Int.toNat_natCast, readN_peel,
    if_neg (Int.not_lt.mpr (Int.natCast_nonneg _))]

theorem readBytesV_null_peel (tl rest : Bytes) (k : Nat) :
    readBytesV (before (encInt 4 (-1) ++ tl) rest k) = (.bytes none, before tl rest k) := by
  simp only [readBytesV, readInt_peel (w := 4) (i := -1) (by decide) (by decide)]
  rfl

/-- one LEB128 group: the low seven bits go below bit `s`, the rest seven bits higher -/
theorem varint_step (n x s : Nat) : x + n % 128 * 2 ^ s + n / 128 * 2 ^ (s + 7) = x + n * 2 ^ s := by
  have h : n / 128 * 2 ^ (s + 7) = 128 * (n / 128) * 2 ^ s := by
    rw [Nat.pow_add, show (2 : Nat) ^ 7 = 128 from rfl, Nat.mul_comm (2 ^ s), ← Nat.mul_assoc, Nat.mul_comm (n / 128)]
  have h2 : n * 2 ^ s = 128 * (n / 128) * 2 ^ s + n % 128 * 2 ^ s := by
    rw [← Nat.add_mul, Nat.div_add_mod]
  omega

theorem encUvarint_pos (f n : Nat) : 1 ≤ (encUvarint (f + 1) n).length := by
  unfold encUvarint
  split
  · exact Nat.le_refl 1
  · exact Nat.le_add_left 1 _

/-- `f` is the encoder's fuel (`n < 128 ^ f`: at most `f` groups), `fuel` the bytes the reader may still take
    (`min 11 remain` in `readVarInt`): one comes from the value, the other from the message.  `x` is what the
    loop has accumulated below bit `s`; as the whole value fits 64 bits, the loop's `% 2 ^ 64` changes nothing. -/
theorem varLoop_peel : ∀ (f n fuel x s : Nat) (tl rest : Bytes) (k : Nat),
    n < 128 ^ f → 0 < f → (encUvarint f n).length ≤ fuel → x + n * 2 ^ s < 2 ^ 64 →
    varLoop fuel x s (before (encUvarint f n ++ tl) rest k) = (some (x + n * 2 ^ s), before tl rest k)
  | 0, _, _, _, _, _, _, _, _, hf, _, _ => by omega
  | f + 1, n, 0, _, _, _, _, _, _, _, hfuel, _ => by
    have := encUvarint_pos f n
    omega
  | f + 1, n, fu + 1, x, s, tl, rest, k, hn, _, hfuel, hx => by
    unfold encUvarint at hfuel ⊢
    by_cases hsmall : n < 128
    · simp only [hsmall, if_true, List.cons_append, List.nil_append, varLoop, readByte_peel,
        Nat.toUInt8_eq, UInt8.toNat_ofNat_of_lt' (Nat.lt_trans hsmall (by decide)), Nat.mod_eq_of_lt hx]
    · have hlt : x + n % 128 * 2 ^ s < 2 ^ 64 :=
        Nat.lt_of_le_of_lt (Nat.add_le_add_left (Nat.mul_le_mul_right _ (Nat.mod_le _ _)) _) hx
      have hdiv : n / 128 < 128 ^ f := Nat.div_lt_of_lt_mul (by rw [Nat.mul_comm, ← Nat.pow_succ]; exact hn)
      have hf1 : 0 < f := Nat.pos_of_ne_zero (by rintro rfl; exact hsmall hn)
      have hb : n % 128 + 128 < 256 := by omega
      simp only [hsmall, if_false, List.length_cons] at hfuel
      simp only [hsmall, if_false, List.cons_append, varLoop, readByte_peel, Nat.toUInt8_eq, UInt8.toNat_ofNat_of_lt' hb,
        show ¬ (n % 128 + 128 < 128) by omega, show (n % 128 + 128) % 128 = n % 128 by omega, Nat.mod_eq_of_lt hlt]
      rw [varLoop_peel f (n / 128) fu (x + n % 128 * 2 ^ s) (s + 7) tl rest k hdiv hf1 (by omega)
        (by rw [varint_step]; exact hx), varint_step]

theorem encUvarint_length_le : ∀ (f n : Nat), (encUvarint f n).length ≤ f
  | 0, _ => by simp [encUvarint]
  | f + 1, n => by
    unfold encUvarint
    split
    · simp
    · have := encUvarint_length_le f (n / 128)
      simp
      omega

/-- the zigzag code of an int64, as the encoder computes it -/
def zz (i : Int) : Nat := if i ≥ 0 then (2 * i).toNat else (-2 * i - 1).toNat

theorem varint_eq (i : Int) : varint i = encUvarint 10 (zz i) := rfl

theorem zz_lt {i : Int} (hi : inRange 64 i = true) : zz i < 2 ^ 64 := by
  unfold inRange at hi
  simp only [Bool.and_eq_true, decide_eq_true_eq, Nat.reducePow, Nat.reduceSub] at hi
  unfold zz
  split
  · omega
  · omega

theorem zigzag_zz (i : Int) : zigzag (zz i) = i := by
  unfold zigzag zz
  by_cases h : i ≥ 0
  · simp only [h, if_true]
    have : (2 * i).toNat % 2 = 0 := by omega
    simp only [this, if_true]
    omega
  · simp only [h, if_false]
    have : ¬ ((-2 * i - 1).toNat % 2 = 0) := by omega
    simp only [this, if_false]
    omega

theorem readVarInt_peel {i : Int} (hi : inRange 64 i = true) (tl rest : Bytes) (k : Nat) :
    readVarInt (before (varint i ++ tl) rest k) = (i, before tl rest k) := by
  have hlen := encUvarint_length_le 10 (zz i)
  have hfuel : (encUvarint 10 (zz i)).length ≤ min 11 (before (encUvarint 10 (zz i) ++ tl) rest k).remain := by
    simp only [before, List.length_append]
    omega
  rw [readVarInt, varint_eq, varLoop_peel 10 (zz i) _ 0 0 tl rest k
    (Nat.lt_of_lt_of_le (zz_lt hi) (by decide)) (by decide) hfuel (by simpa using zz_lt hi)]
  simp [zigzag_zz]

theorem readVarInt_enc (i : Int) (hi : inRange 64 i = true) (rest : Bytes) (k : Nat) :
    readVarInt (before (varint i) rest k) = (i, after rest k) := by
  simpa [before_nil] using readVarInt_peel hi [] rest k

theorem readVarString_peel {n : Int} {b : Bytes} (h : lenOk n b = true) (tl rest : Bytes) (k : Nat) :
    readVarString n (before (b ++ tl) rest k) = (.str b, before tl rest k) := by
  unfold lenOk at h
  simp only [Bool.or_eq_true, Bool.and_eq_true, decide_eq_true_eq, List.isEmpty_iff] at h
  unfold readVarString
  rcases h with ⟨hn, _⟩ | ⟨⟨hn, hb⟩, _⟩
  · by_cases hz : n ≤ 0
    · have : b = [] := List.length_eq_zero_iff.mp (by omega)
      subst this
      simp [hz]
    · simp only [hz, if_false]
      have : n.toNat = b.length := by omega
      rw [this, readN_peel]
  · subst hb
    simp [hn]

theorem lenOk_range {n : Int} {b : Bytes} (h : lenOk n b = true) : inRange 64 n = true := by
  unfold lenOk at h
  simp only [Bool.or_eq_true, Bool.and_eq_true] at h
  rcases h with ⟨_, h⟩ | ⟨_, h⟩ <;> exact h

theorem varint_pos (i : Int) : 1 ≤ (varint i).length :=
  varint_eq i ▸ encUvarint_pos 9 _

theorem encHeader_pos (h : Val) (hc : conformsHeader h = true) : 2 ≤ (encHeader h).length := by
  unfold conformsHeader at hc
  split at hc
  · next kl _ vl _ =>
    have h1 := varint_pos kl
    have h2 := varint_pos vl
    simp only [encHeader, strBytes, List.length_append]
    omega
  · cases hc

theorem decodeHeader_peel {h : Val} (hc : conformsHeader h = true) (tl rest : Bytes) (k : Nat) :
    decodeHeader (before (encHeader h ++ tl) rest k) = (h, before tl rest k) := by
  unfold conformsHeader at hc
  split at hc
  · simp only [Bool.and_eq_true] at hc
    simp only [decodeHeader, encHeader, strBytes, List.append_assoc, readVarInt_peel (lenOk_range hc.1),
      readVarString_peel hc.1, readVarInt_peel (lenOk_range hc.2), readVarString_peel hc.2]
  · cases hc

theorem allChain_induction {p : Val → Bool} {motive : (es : Val) → allChain p es = true → Prop}
    (nil : motive .nil rfl)
    (cons : ∀ v r (hv : p v = true) (hr : allChain p r = true), motive r hr →
      motive (.cons v r) (by simp [allChain, hv, hr]))
    (es : Val) (h : allChain p es = true) : motive es h := by
  induction es with
  | cons v r _ ih =>
    have h' := h
    simp only [allChain, Bool.and_eq_true] at h'
    exact cons v r h'.1 h'.2 (ih h'.2)
  | nil => exact nil
  | _ => simp [allChain] at h

theorem chainLen_le_bytes {p : Val → Bool} {f : Val → Bytes} (hp : ∀ v, p v = true → 1 ≤ (f v).length) (es : Val)
    (h : allChain p es = true) : es.chainLen ≤ (chainBytes f es).length := by
  induction es, h using allChain_induction with
  | nil => simp [Val.chainLen]
  | cons v r hv _ ih =>
    have := hp v hv
    simp only [Val.chainLen, chainBytes, List.length_append]
    omega

theorem repeatWhile_headers (hs : Val) (hc : allChain conformsHeader hs = true) (tl rest : Bytes) (k : Nat) :
    repeatWhile decodeHeader hs.chainLen (before (chainBytes encHeader hs ++ tl) rest k) = (hs, before tl rest k) := by
  induction hs, hc using allChain_induction with
  | nil => simp [Val.chainLen, chainBytes, repeatWhile]
  | cons h r hh _ ih =>
    have hpos := encHeader_pos h hh
    have hrem : (before (encHeader h ++ (chainBytes encHeader r ++ tl)) rest k).remain > 0 := by
      simp only [before, List.length_append]
      omega
    have herr : (before (encHeader h ++ (chainBytes encHeader r ++ tl)) rest k).err = false := rfl
    simp only [Val.chainLen, chainBytes, repeatWhile, List.append_assoc, hrem, herr, Bool.false_eq_true,
      not_false_eq_true, and_self, if_true, decodeHeader_peel hh, ih]

theorem decodeRecord_peel {v : Val} (hc : conformsRec v = true) (tl rest : Bytes) (k : Nat) :
    decodeRecord (before (encRecord v ++ tl) rest k) = (v, before tl rest k) := by
  -- `split` on the specification's own match: a `match v, hc with` on the nine-field pattern here would
  -- compile a new matcher over all overlapping cases
  unfold conformsRec at hc
  split at hc
  · next len at_ ts off kl key vl val hs =>
    simp only [Bool.and_eq_true] at hc
    obtain ⟨⟨⟨⟨⟨⟨⟨hlen, hat⟩, hts⟩, hoff⟩, hk⟩, hv⟩, hhs⟩, hcount⟩ := hc
    have hmin : min ((hs.chainLen : Int)).toNat (before (chainBytes encHeader hs ++ tl) rest k).remain = hs.chainLen := by
      have := chainLen_le_bytes (fun h hh => Nat.le_of_succ_le (encHeader_pos h hh)) hs hhs
      simp only [before, List.length_append, Int.toNat_natCast]
      omega
    simp only [decodeRecord, encRecord, strBytes, List.append_assoc, readVarInt_peel hlen,
      readInt_peel (w := 1) (by decide) hat, readVarInt_peel hts, readVarInt_peel hoff, readVarInt_peel (lenOk_range hk),
      readVarString_peel hk, readVarInt_peel (lenOk_range hv), readVarString_peel hv, readVarInt_peel hcount, hmin,
      repeatWhile_headers hs hhs]
  · cases hc

/-- Every conforming record - null and empty keys and values, any number of headers - is decoded to its fields. -/
theorem decodeRecord_enc (v : Val) (hc : conformsRec v = true) (rest : Bytes) (k : Nat) :
    decodeRecord (before (encRecord v) rest k) = (v, after rest k) := by
  simpa [before_nil] using decodeRecord_peel hc [] rest k

theorem normV_header (h : Val) (hc : conformsHeader h = true) : normV h = h := by
  unfold conformsHeader at hc
  split at hc
  · simp [normV]
  · cases hc

theorem normV_headers (hs : Val) (hc : allChain conformsHeader hs = true) : normV hs = hs := by
  induction hs, hc using allChain_induction with
  | nil => simp [normV]
  | cons h r hh _ ih => simp [normV, normV_header h hh, ih]

theorem normV_rec (v : Val) (hc : conformsRec v = true) : normV v = v := by
  unfold conformsRec at hc
  split at hc
  · simp only [Bool.and_eq_true] at hc
    simp [normV, normV_headers _ hc.1.2]
  · cases hc

theorem chainLen_normV (w : Val) : (normV w).chainLen = w.chainLen := by
  induction w with
  | cons v r _ ihr => simp [normV, Val.chainLen, ihr]
  | _ => simp [normV, Val.chainLen]

theorem decodePrim_peel (p : Prim) (v : Val) (hc : conformsPrim p v = true) (tl rest : Bytes) (k : Nat) :
    decodePrim p (before (encPrim false p v ++ tl) rest k) = (normV v, before tl rest k) := by
  -- the arms of `conformsPrim`, in its order
  unfold conformsPrim at hc
  split at hc
  · -- recordV0
    rw [decodePrim, encPrim, decodeRecord_peel hc, normV_rec v hc]
  · next b => -- bool
    simp only [decodePrim, encPrim, List.cons_append, List.nil_append, readByte_peel, normV]
    cases b <;> rfl
  · -- int8 .. int64
    simp only [decodePrim, encPrim, readInt_peel (w := 1) (by decide) hc, normV]
  · simp only [decodePrim, encPrim, readInt_peel (w := 2) (by decide) hc, normV]
  · simp only [decodePrim, encPrim, readInt_peel (w := 4) (by decide) hc, normV]
  · simp only [decodePrim, encPrim, readInt_peel (w := 8) (by decide) hc, normV]
  · -- str and nstr with a string
    simp only [decodePrim, encPrim, Bool.false_eq_true, if_false, List.append_assoc,
      readString_peel (of_decide_eq_true hc), normV]
  · simp only [decodePrim, encPrim, Bool.false_eq_true, if_false, List.append_assoc,
      readString_peel (of_decide_eq_true hc), normV]
  · -- nstr, null
    simp only [decodePrim, encPrim, Bool.false_eq_true, if_false, readString_null_peel, normV]
  · -- bytes, null and not
    simp only [decodePrim, encPrim, Bool.false_eq_true, if_false, readBytesV_null_peel, normV]
  · simp only [decodePrim, encPrim, Bool.false_eq_true, if_false, List.append_assoc,
      readBytesV_peel (of_decide_eq_true hc), normV]
  · cases hc

/-- `Good ty v`: decoding the encoding of `v`, whatever follows it, yields `v` (with null strings
    reported as empty) and stops exactly at the end of the encoding -/
def Good (ty : Ty) (v : Val) : Prop :=
  ∀ (rest : Bytes) (k : Nat), decode ty (before (enc false ty v) rest k) = (normV v, after rest k)

/-- `Good` in the form that chains: whatever else the message holds after the encoding -/
def GoodIn (ty : Ty) (v : Val) : Prop :=
  ∀ (tl rest : Bytes) (k : Nat), decode ty (before (enc false ty v ++ tl) rest k) = (normV v, before tl rest k)

theorem GoodIn.good {ty : Ty} {v : Val} (h : GoodIn ty v) : Good ty v := fun rest k => by
  simpa [before_nil] using h [] rest k

theorem repeatDec_peel (e : Ty) (z : Val) (ih : ∀ v, conforms e v = true → GoodIn e v) (es : Val)
    (h : allChain (fun v => conforms e v && decide (1 ≤ (enc false e v).length)) es = true) (tl rest : Bytes) (k : Nat) :
    repeatDec (decode e) z es.chainLen (before (chainBytes (enc false e) es ++ tl) rest k) = (normV es, before tl rest k) := by
  induction es, h using allChain_induction with
  | nil => simp [Val.chainLen, chainBytes, repeatDec, normV]
  | cons v r hv _ ihr =>
    simp only [Bool.and_eq_true, decide_eq_true_eq] at hv
    have hpos : (before (enc false e v ++ (chainBytes (enc false e) r ++ tl)) rest k).remain > 0 := by
      simp only [before, List.length_append]
      omega
    simp only [Val.chainLen, chainBytes, repeatDec, List.append_assoc, hpos, if_true, ih v hv.1 _ rest k, ihr, normV]

theorem conforms_unit {v : Val} (h : conforms .unit v = true) : v = .nil := by
  cases v <;> simp [conforms] at h ⊢

theorem conforms_seq {n : String} {a r : Ty} {v : Val} (h : conforms (.seq n a r) v = true) :
    ∃ x xs, v = .cons x xs ∧ conforms a x = true ∧ conforms r xs = true := by
  cases v <;> simp [conforms] at h
  exact ⟨_, _, rfl, h⟩

theorem conforms_arr {e : Ty} {v : Val} (h : conforms (.arr e) v = true) :
    v = .null ∨ ∃ es, v = .arr es ∧ es.chainLen ≤ 65535 ∧
      allChain (fun v => conforms e v && decide (1 ≤ (enc false e v).length)) es = true := by
  cases v <;> simp [conforms] at h
  · exact .inl rfl
  · exact .inr ⟨_, rfl, h⟩

theorem decode_peel : ∀ (ty : Ty) (v : Val), conforms ty v = true → GoodIn ty v
  | .prim p, v, hc => fun tl rest k => by
    rw [decode, enc, decodePrim_peel p v (by simpa [conforms] using hc)]
  | .unit, v, hc => fun tl rest k => by
    obtain rfl := conforms_unit hc
    simp [decode, enc, normV]
  | .seq n a r, v, hc => fun tl rest k => by
    obtain ⟨x, xs, rfl, hx, hxs⟩ := conforms_seq hc
    simp only [decode, enc, List.append_assoc, decode_peel a _ hx _ rest k, decode_peel r _ hxs _ rest k, normV]
  | .arr e, v, hc => fun tl rest k => by
    obtain rfl | ⟨es, rfl, hn, hall⟩ := conforms_arr hc
    · simp only [decode, enc, Bool.false_eq_true, if_false, readInt_peel (w := 4) (i := -1) (by decide) (by decide), normV]
      rfl
    · -- every element takes at least a byte, so the count is not clamped by `remain`
      have hle : es.chainLen ≤ (chainBytes (enc false e) es).length :=
        chainLen_le_bytes (fun v hv => by simp only [Bool.and_eq_true, decide_eq_true_eq] at hv; exact hv.2) es hall
      have hmin : min es.chainLen (before (chainBytes (enc false e) es ++ tl) rest k).remain = es.chainLen := by
        simp only [before, List.length_append]
        omega
      have h1 : ¬ (((es.chainLen : Nat) : Int) < 0 ∨ ((es.chainLen : Nat) : Int) > 65535) := by omega
      simp only [decode, enc, Bool.false_eq_true, if_false, List.append_assoc,
        readInt_peel (w := 4) (by decide) (inRange_natCast (bits := 32) (Nat.lt_of_le_of_lt hn (by decide))), h1,
        Int.toNat_natCast, hmin, repeatDec_peel e _ (fun v hv => decode_peel e v hv) es hall, normV]

/-- For every schema (records included) and every conforming value, the decoder on the reference encoding,
    whatever follows it, yields the value and stops at the end of the encoding. -/
theorem c06_decode_enc : ∀ (ty : Ty) (v : Val), conforms ty v = true → Good ty v :=
  fun ty v hc => (decode_peel ty v hc).good

/-- two decode functions that leave the same state and report the same field values -/
def Agree (f g : D → Val × D) : Prop := ∀ d, (f d).2 = (g d).2 ∧ leaves (f d).1 = leaves (g d).1

theorem Agree.refl (f : D → Val × D) : Agree f f := fun _ => ⟨rfl, rfl⟩
theorem Agree.symm {f g : D → Val × D} (a : Agree f g) : Agree g f := fun d => ⟨(a d).1.symm, (a d).2.symm⟩
theorem Agree.trans {f g h : D → Val × D} (a : Agree f g) (b : Agree g h) : Agree f h :=
  fun d => ⟨(a d).1.trans (b d).1, (a d).2.trans (b d).2⟩

theorem zeros_leaves (z z' : Val) (h : leaves z = leaves z') : ∀ n, leaves (zeros z n) = leaves (zeros z' n)
  | 0 => by simp [zeros]
  | n + 1 => by simp [zeros, leaves, h, zeros_leaves z z' h n]

theorem repeatDec_agree {f g : D → Val × D} {z z' : Val} (hfg : Agree f g) (hz : leaves z = leaves z') :
    ∀ n, Agree (repeatDec f z n) (repeatDec g z' n)
  | 0, d => by simp [repeatDec]
  | n + 1, d => by
    unfold repeatDec
    split
    · obtain ⟨hs, hl⟩ := hfg d
      have ih := repeatDec_agree hfg hz n (f d).2
      simp only [leaves]
      rw [hl, ← hs]
      exact ⟨ih.1, by rw [ih.2]⟩
    · exact ⟨rfl, zeros_leaves z z' hz (n + 1)⟩

/-- schemas no input tells apart: decoding leaves the same state and reports the same field values, and so
    do the zero values the element loop pads with -/
def WireEq (a b : Ty) : Prop := Agree (decode a) (decode b) ∧ leaves (zeroVal a) = leaves (zeroVal b)

theorem WireEq.refl (a : Ty) : WireEq a a := ⟨Agree.refl _, rfl⟩

theorem WireEq.symm {a b : Ty} (h : WireEq a b) : WireEq b a := ⟨h.1.symm, h.2.symm⟩

theorem WireEq.trans {a b c : Ty} (h1 : WireEq a b) (h2 : WireEq b c) : WireEq a c :=
  ⟨h1.1.trans h2.1, h1.2.trans h2.2⟩

theorem WireEq.arr {e e' : Ty} (h : WireEq e e') : WireEq (.arr e) (.arr e') := by
  refine ⟨fun d => ?_, rfl⟩
  simp only [decode]
  split
  · exact ⟨rfl, rfl⟩
  · have := repeatDec_agree h.1 h.2 (min (readInt 4 d).1.toNat (readInt 4 d).2.remain) (readInt 4 d).2
    exact ⟨this.1, by simp only [leaves, repeatDec_chainLen, this.2]⟩

theorem WireEq.seq {a a' r r' : Ty} (n n' : String) (ha : WireEq a a') (hr : WireEq r r') :
    WireEq (.seq n a r) (.seq n' a' r') := by
  refine ⟨fun d => ?_, by simp only [zeroVal, leaves, ha.2, hr.2]⟩
  simp only [decode, leaves]
  obtain ⟨hs, hl⟩ := ha.1 d
  rw [hs, hl]
  obtain ⟨hs2, hl2⟩ := hr.1 (decode a' d).2
  exact ⟨hs2, by rw [hl2]⟩

theorem WireEq.seq_unit (n : String) (r : Ty) : WireEq r (.seq n .unit r) :=
  ⟨fun d => by simp [decode, leaves], by simp [zeroVal, leaves]⟩

/-- a struct spliced into the fields that follow it reads like the struct as a field of its own -/
theorem WireEq.append (n : String) : ∀ (a r : Ty), WireEq (a.append r) (.seq n a r)
  | .unit, r => WireEq.seq_unit n r
  | .seq m x rest, r => by
    have ih := WireEq.append n rest r
    refine ⟨fun d => ?_, ?_⟩
    · have := ih.1 (decode x d).2
      simp only [Ty.append, decode, leaves, List.append_assoc] at this ⊢
      exact ⟨this.1, by rw [this.2]⟩
    · have := ih.2
      simp only [Ty.append, zeroVal, leaves, List.append_assoc] at this ⊢
      rw [this]
  | .prim p, r => WireEq.seq _ _ (WireEq.refl _) (WireEq.refl _)
  | .arr e, r => WireEq.seq _ _ (WireEq.refl _) (WireEq.refl _)

theorem unwrap1_wireEq (t : Ty) : WireEq (unwrap1 t) t := by
  unfold unwrap1
  split
  · split
    · exact WireEq.seq _ _ (WireEq.refl _) (WireEq.refl _)
    · exact ⟨fun d => by simp [decode, leaves], by simp [zeroVal, leaves]⟩
  · exact WireEq.refl _

theorem norm_wireEq (ty : Ty) : WireEq (norm ty) ty := by
  induction ty with
  | prim p => cases p <;> exact WireEq.refl _
  | arr e ih => exact ((unwrap1_wireEq _).trans ih).arr
  | unit => exact WireEq.refl _
  | seq n a rest iha ihr =>
    cases a with
    | unit => exact ihr.trans (WireEq.seq_unit n rest)
    -- `norm` splices an inner struct into the fields that follow it
    | seq m x r => exact (WireEq.append n _ _).trans (WireEq.seq n n iha ihr)
    | prim p => exact WireEq.seq "" n iha ihr
    | arr e => exact WireEq.seq "" n iha ihr

/-- A schema and its normal form decode alike on every input, well-formed or not. -/
theorem decode_norm (ty : Ty) : Agree (decode (norm ty)) (decode ty) ∧ leaves (zeroVal (norm ty)) = leaves (zeroVal ty) :=
  norm_wireEq ty

theorem compat_wireEq {l p : Ty} (h : compat l p = true) : WireEq l p := by
  have hn : norm l = norm p := by simpa [compat] using h
  exact (norm_wireEq l).symm.trans (hn ▸ norm_wireEq p)

/-- Layouts with the same normal form cannot be told apart by any input. -/
theorem c06_compat_sound (l p : Ty) (h : compat l p = true) : Agree (decode l) (decode p) :=
  (compat_wireEq h).1

theorem leaves_normV : ∀ v : Val, leaves (normV v) = leaves v
  | .nullStr => by simp [normV, leaves]
  | .arr es => by simp [normV, leaves, chainLen_normV, leaves_normV es]
  | .cons v r => by simp [normV, leaves, leaves_normV v, leaves_normV r]
  | .int _ | .bool _ | .str _ | .bytes _ | .null | .nil => by simp [normV]

/-- When the selected layout has the normal form of the reference schema, then for every conforming value and
    whatever follows, the payload carries exactly the encoded field values, in order, and decoding stops at
    the end of the encoding. -/
theorem c06_exact (l p : Ty) (hcompat : compat l p = true)
    (v : Val) (hv : conforms p v = true) (rest : Bytes) (k : Nat) :
    leaves (decode l (before (enc false p v) rest k)).1 = leaves v ∧
    (decode l (before (enc false p v) rest k)).2 = after rest k := by
  obtain ⟨hs, hl⟩ := c06_compat_sound l p hcompat (before (enc false p v) rest k)
  have hg := c06_decode_enc p v hv rest k
  rw [hs, hl, hg]
  exact ⟨leaves_normV v, rfl⟩

theorem before_zero (bs tail : Bytes) : ({ stream := bs ++ tail, remain := bs.length, err := false } : D) = before bs tail 0 := by
  simp [before]

def cidLen : Option Bytes → Nat
  | some b => 2 + b.length
  | none => 2

theorem Within.discardAll_before {body tail : Bytes} {d : D} (h : Within (before body tail 0) d) :
    d.discardAll.stream = tail := by
  rw [Within.discardAll h]
  simp [before]

theorem readSize_enc (R tail : Bytes) (hR : R.length < 2 ^ 31) :
    readInt 4 { stream := encInt 4 R.length ++ R ++ tail, remain := 4 } = ((R.length : Int), after (R ++ tail) 0) := by
  simpa [before, after, encInt_length] using
    readInt_peel (w := 4) (by decide) (inRange_natCast (bits := 32) hR) [] (R ++ tail) 0

/-- the state `readRequest` / `readResponse` open the message with -/
theorem frame_before (R tail : Bytes) :
    ({ (after (R ++ tail) 0) with remain := ((R.length : Int)).toNat } : D) = before R tail 0 := by
  simp [before, after]

/-- `hsup` holds for every (api key, version) of today's table, by `Kafka.lookup_supported` (Proofs/C01Kafka) -/
theorem request_header (api ver corr : Int) (cid : Option Bytes) (body tail : Bytes)
    (hapi : inRange 16 api = true) (hver : inRange 16 ver = true) (hcorr : inRange 32 corr = true)
    (hcid : ∀ b, cid = some b → b.length < 32768)
    (hsize : 8 + cidLen cid + body.length ≤ 1000000)
    (hsup : ∀ ty, (lookupLayout api ver).1 = some ty → ty.hasUnsupported = false) :
    let m : CMsg := { api, ver, corr, clientId := cid, body := .raw body }
    readRequest (encRequest m ++ tail) =
      .ok ({ size := ((encRequest m).length - 4 : Nat), apiKey := api, ver, corr, clientId := cid.getD [],
             layout := (lookupLayout api ver).1,
             payload := match (lookupLayout api ver).1 with
               | some l => (decode l (before body tail 0)).1
               | none => .nil }, tail) := by
  intro m
  -- the message after its size field
  let cidB : Bytes := match cid with | some b => encInt 2 b.length ++ b | none => encInt 2 (-1)
  let R : Bytes := encInt 2 api ++ (encInt 2 ver ++ (encInt 4 corr ++ (cidB ++ body)))
  -- with `hsize`, what the `omega`s on the size of `R` below rest on
  have hRlen : R.length = 8 + cidLen cid + body.length := by
    cases cid <;> simp only [R, cidB, cidLen, List.length_append, encInt_length] <;> omega
  have henc : encRequest m = encInt 4 R.length ++ R := by
    simp only [encRequest, m, Body.flex, encBody, Bool.false_eq_true, if_false, List.append_nil, R, cidB]
    cases cid <;> simp [List.append_assoc]
  have h4 : readString (before (cidB ++ body) tail 0) = (.str (cid.getD []), before body tail 0) := by
    cases cid with
    | none => exact readString_null_peel body tail 0
    | some b => simp only [cidB, List.append_assoc]; exact readString_peel (hcid b rfl) body tail 0
  unfold readRequest
  simp only [henc, readSize_enc R tail (by omega), frame_before,
    if_neg (show ¬ ((R.length : Int) > 1000000) by omega), if_neg (show ¬ ((R.length : Int) < 8) by omega),
    List.length_append, encInt_length, Nat.add_sub_cancel_left]
  simp only [R, readInt_peel (w := 2) (by decide) hapi, readInt_peel (w := 2) (by decide) hver,
    readInt_peel (w := 4) (by decide) hcorr, h4,
    show (before body tail 0).err = false from rfl, Bool.false_eq_true, if_false]
  cases hl : (lookupLayout api ver).1 with
  | none => simp only [Within.discardAll_before (Within.refl _)]
  | some ty => simp only [hsup ty hl, Bool.false_eq_true, if_false, Within.discardAll_before (decode_within ty _)]

/-- For every API key, version, correlation id and client id (null included) and any body bytes: the request
    is accepted, its header reported as encoded, its size is its length and the next message starts right
    after it, whether or not the dissector has a layout for the API. -/
theorem c06_request_header (api ver corr : Int) (cid : Option Bytes) (body tail : Bytes)
    (hapi : inRange 16 api = true) (hver : inRange 16 ver = true) (hcorr : inRange 32 corr = true)
    (hcid : ∀ b, cid = some b → b.length < 32768)
    (hsize : 8 + cidLen cid + body.length ≤ 1000000)
    (hsup : ∀ ty, (lookupLayout api ver).1 = some ty → ty.hasUnsupported = false) :
    let m : CMsg := { api, ver, corr, clientId := cid, body := .raw body }
    ∃ q, readRequest (encRequest m ++ tail) = .ok (q, tail) ∧
      q.size = ((encRequest m).length - 4 : Nat) ∧ q.apiKey = api ∧ q.ver = ver ∧ q.corr = corr ∧
      q.clientId = cid.getD [] ∧ q.layout = (lookupLayout api ver).1 ∧
      (∀ l, (lookupLayout api ver).1 = some l → q.payload = (decode l (before body tail 0)).1) :=
  ⟨_, request_header api ver corr cid body tail hapi hver hcorr hcid hsize hsup, rfl, rfl, rfl, rfl, rfl, rfl,
    fun l hl => by simp only [hl]⟩

/-- The counterpart for the response to an open request.  It asks for a layout, which the request side does
    not: without one `readResponse` reports no item. -/
theorem response_header (open_ : List Req) (q : Req) (hq : open_.find? (fun o => o.corr == q.corr) = some q)
    (hcorr : inRange 32 q.corr = true) (body tail : Bytes) (hsize : 4 + body.length ≤ 1000000)
    (l : Ty) (hl : (lookupLayout q.apiKey q.ver).2 = some l) (hsup : l.hasUnsupported = false) :
    let m : SMsg := { corr := q.corr, body := .raw body }
    readResponse open_ (encResponse m ++ tail) =
      .ok (some { req := q, resp := { size := ((encResponse m).length - 4 : Nat), corr := q.corr, layout := l,
                                      payload := (decode l (before body tail 0)).1 } },
           open_.filter (fun o => o.corr != q.corr), tail) := by
  intro m
  let R : Bytes := encInt 4 q.corr ++ body
  have hRlen : R.length = 4 + body.length := by simp [R, encInt_length]
  have henc : encResponse m = encInt 4 R.length ++ R := by
    simp [encResponse, m, Body.flex, encBody, R]
  have hlen4 : (encResponse m).length - 4 = R.length := by rw [henc]; simp [encInt_length]
  have hsz : readInt 4 { stream := encResponse m ++ tail, remain := 4 } = ((R.length : Int), after (R ++ tail) 0) := by
    rw [henc]; exact readSize_enc R tail (by omega)
  have hnotbig : ¬ ((R.length : Int) > 1000000) := by omega
  have hnotsmall : ¬ ((R.length : Int) < 4) := by omega
  unfold readResponse
  simp only [hsz, hnotbig, hnotsmall, if_false, frame_before]
  simp only [R, readInt_peel (w := 4) (by decide) hcorr, hq, hl, hsup, Bool.false_eq_true, if_false, Within.discardAll_before (decode_within l _)]
  simp [hlen4, R]

open KsVerif.Generated.KafkaProtocol

/-- Every row of the reference (Produce 0-8, Fetch 0-11, ListOffsets 1-5, Metadata 0-8, ApiVersions 0-2,
    CreateTopics 0-5, DeleteTopics 0-3; both directions) has a wire-equivalent selected layout or is a listed
    deviation.  Evaluated on the regenerated tables: a layout edit that changes the wire reading of a row
    breaks this theorem. -/
theorem c06_table : tableOk = true := by decide +kernel

/-- what `c06_table` says of a row and a direction outside the deviations -/
theorem row_layout {r : ProtoRow} (hr : r ∈ protoTable) :
    ((r.1.1, r.1.2, Dir.req) ∉ deviations → r.2.2.1 = false ∧ ∃ l, (lookupLayout r.1.1 r.1.2).1 = some l ∧
      compat l r.2.1 = true ∧ l.hasUnsupported = false) ∧
    ((r.1.1, r.1.2, Dir.resp) ∉ deviations → r.2.2.2.2 = false ∧ ∃ l, (lookupLayout r.1.1 r.1.2).2 = some l ∧
      compat l r.2.2.2.1 = true ∧ l.hasUnsupported = false) := by
  have h : rowOk r = true := List.all_eq_true.mp (c06_table : protoTable.all rowOk = true) r hr
  simp only [rowOk, rowCompat, Bool.and_eq_true, Bool.or_eq_true, Bool.not_eq_true', List.contains_iff_mem] at h
  constructor <;> intro hdev
  · obtain ⟨hflex, hc⟩ := h.1.resolve_right hdev
    split at hc
    · exact ⟨hflex, _, ‹_›, by simpa using hc⟩
    · cases hc
  · obtain ⟨hflex, hc⟩ := h.2.resolve_right hdev
    split at hc
    · exact ⟨hflex, _, ‹_›, by simpa using hc⟩
    · cases hc

/-- requests of every row outside the deviations: exact for all values and all continuations -/
theorem c06_request_rows (r : ProtoRow) (hr : r ∈ protoTable) (hdev : (r.1.1, r.1.2, Dir.req) ∉ deviations) :
    r.2.2.1 = false ∧ ∃ l, (lookupLayout r.1.1 r.1.2).1 = some l ∧
      ∀ v, conforms r.2.1 v = true → ∀ rest k,
        leaves (decode l (before (enc false r.2.1 v) rest k)).1 = leaves v ∧
        (decode l (before (enc false r.2.1 v) rest k)).2 = after rest k := by
  obtain ⟨hflex, l, hl, hcompat, _⟩ := (row_layout hr).1 hdev
  exact ⟨hflex, l, hl, fun v hv rest k => c06_exact l r.2.1 hcompat v hv rest k⟩

/-- responses of every row outside the deviations: exact for all values and all continuations -/
theorem c06_response_rows (r : ProtoRow) (hr : r ∈ protoTable) (hdev : (r.1.1, r.1.2, Dir.resp) ∉ deviations) :
    r.2.2.2.2 = false ∧ ∃ l, (lookupLayout r.1.1 r.1.2).2 = some l ∧
      ∀ v, conforms r.2.2.2.1 v = true → ∀ rest k,
        leaves (decode l (before (enc false r.2.2.2.1 v) rest k)).1 = leaves v ∧
        (decode l (before (enc false r.2.2.2.1 v) rest k)).2 = after rest k := by
  obtain ⟨hflex, l, hl, hcompat, _⟩ := (row_layout hr).2 hdev
  exact ⟨hflex, l, hl, fun v hv rest k => c06_exact l r.2.2.2.1 hcompat v hv rest k⟩

/-- A whole request, end to end: for every row outside the deviations, every conforming body value, every
    correlation id and client id and whatever follows, the request is accepted, header and field values are
    reported as encoded, its size is its length and the next message starts right after it. -/
theorem c06_request_exact (r : ProtoRow) (hr : r ∈ protoTable) (hdev : (r.1.1, r.1.2, Dir.req) ∉ deviations)
    (corr : Int) (cid : Option Bytes) (v : Val) (tail : Bytes)
    (hapi : inRange 16 r.1.1 = true) (hver : inRange 16 r.1.2 = true) (hcorr : inRange 32 corr = true)
    (hcid : ∀ b, cid = some b → b.length < 32768) (hv : conforms r.2.1 v = true)
    (hsize : 8 + cidLen cid + (enc false r.2.1 v).length ≤ 1000000) :
    let m : CMsg := { api := r.1.1, ver := r.1.2, corr, clientId := cid, body := .typed r.2.1 false v }
    ∃ q, readRequest (encRequest m ++ tail) = .ok (q, tail) ∧
      q.size = ((encRequest m).length - 4 : Nat) ∧ q.apiKey = r.1.1 ∧ q.ver = r.1.2 ∧ q.corr = corr ∧
      q.clientId = cid.getD [] ∧ leaves q.payload = leaves v := by
  intro m
  obtain ⟨_, l, hl, hcompat, hsup⟩ := (row_layout hr).1 hdev
  -- a typed body is its encoding sent raw
  have hraw : encRequest m = encRequest { api := r.1.1, ver := r.1.2, corr, clientId := cid, body := .raw (enc false r.2.1 v) } := by
    simp [m, encRequest, encBody, Body.flex]
  rw [hraw]
  refine ⟨_, request_header r.1.1 r.1.2 corr cid (enc false r.2.1 v) tail hapi hver hcorr hcid hsize
    (by intro ty hty; rw [hl] at hty; cases hty; exact hsup), rfl, rfl, rfl, rfl, rfl, ?_⟩
  simp only [hl]
  exact (c06_exact l r.2.1 hcompat v hv tail 0).1

/-- A whole response, end to end: it is matched to the open request by its correlation id, which leaves the
    set of open requests; field values, size and the start of the next message as for a request. -/
theorem c06_response_exact (r : ProtoRow) (hr : r ∈ protoTable) (hdev : (r.1.1, r.1.2, Dir.resp) ∉ deviations)
    (open_ : List Req) (q : Req) (hq : open_.find? (fun o => o.corr == q.corr) = some q)
    (hqa : q.apiKey = r.1.1) (hqv : q.ver = r.1.2) (hcorr : inRange 32 q.corr = true)
    (v : Val) (tail : Bytes) (hv : conforms r.2.2.2.1 v = true)
    (hsize : 4 + (enc false r.2.2.2.1 v).length ≤ 1000000) :
    let m : SMsg := { corr := q.corr, body := .typed r.2.2.2.1 false v }
    ∃ it, readResponse open_ (encResponse m ++ tail) =
        .ok (some it, open_.filter (fun o => o.corr != q.corr), tail) ∧
      it.req.corr = q.corr ∧ it.req.apiKey = r.1.1 ∧ it.resp.corr = q.corr ∧
      it.resp.size = ((encResponse m).length - 4 : Nat) ∧ leaves it.resp.payload = leaves v := by
  intro m
  obtain ⟨_, l, hl, hcompat, hsup⟩ := (row_layout hr).2 hdev
  have hraw : encResponse m = encResponse { corr := q.corr, body := .raw (enc false r.2.2.2.1 v) } := by
    simp [m, encResponse, encBody, Body.flex]
  rw [hraw]
  exact ⟨_, response_header open_ q hq hcorr _ tail hsize l (by rw [hqa, hqv]; exact hl) hsup, rfl, hqa, rfl, rfl,
    (c06_exact l r.2.2.2.1 hcompat v hv tail 0).1⟩

/-- the names the dissector reports for API keys −1 … 51 (regenerated from `ApiKey.String`) are
    the protocol's -/
theorem c06_api_names : Generated.Kafka.apiNameTable.all (fun r => r.2 == specApiName r.1) = true := by decide +kernel

/-! Not vacuous: rows of the table with concrete conforming values. -/

/-- Metadata v5 response: brokers, nullable cluster id, topics with partitions and their replica arrays -/
def metaV5 : ProtoRow := ((3, 5), ((protoTable.find? fun r => r.1 == (3, 5)).map (·.2)).getD (.unit, false, .unit, false))

example : metaV5 ∈ protoTable ∧ (metaV5.1.1, metaV5.1.2, Dir.resp) ∉ deviations := by
  decide +kernel

def metaV5Value : Val :=
  chainOf [.int 12,
    .arr (chainOf [chainOf [.int 1, .str [104, 49], .int 9092, .nullStr]]),
    .str [99],
    .int 1,
    .arr (chainOf [chainOf [.int 0, .str [116], .bool false,
      .arr (chainOf [chainOf [.int 0, .int 0, .int 1, .arr (chainOf [.int 1, .int 2]), .arr (chainOf [.int 1]), .arr .nil]])]])]

example : conforms metaV5.2.2.2.1 metaV5Value = true := by decide +kernel

/-- Fetch v5 response: a null aborted-transactions array, a record batch of one record with a null value -/
def fetchV5 : ProtoRow := ((1, 5), ((protoTable.find? fun r => r.1 == (1, 5)).map (·.2)).getD (.unit, false, .unit, false))

def fetchV5Value : Val :=
  let record := chainOf [.int 8, .int 0, .int 0, .int 0, .int 1, .str [107], .int (-1), .str [], .arr .nil]
  let recordSet := chainOf [.int 70, .int 0, .int 58, .int (-1), .int 2, .int 0, .int 0, .int 0, .int 1, .int 1,
    .int (-1), .int (-1), .int (-1), .arr (chainOf [record])]
  chainOf [.int 0, .arr (chainOf [chainOf [.str [116],
    .arr (chainOf [chainOf [.int 0, .int 0, .int 5, .int 5, .int 0, .null, recordSet]])]])]

example : fetchV5 ∈ protoTable ∧ (fetchV5.1.1, fetchV5.1.2, Dir.resp) ∉ deviations ∧
    conforms fetchV5.2.2.2.1 fetchV5Value = true := by decide +kernel

end KsVerif.Proofs.C06
