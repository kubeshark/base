/-
  C14 — filtering never alters a record.

  The Go evaluator hands the one parsed record through every sub-evaluation and only `redact`
  writes to it (jp.Set); the model threads the record in the same order, and a query without
  `redact` is shown to hand it back as it was.
-/
import KsVerif.Kfl.Eval

namespace KsVerif.Proofs.C14
open KsVerif.Kfl

/-! `nrX`: no helper of the prepared query is `redact`. -/
mutual
  def nrExpr : Expr → Bool
    | .empty => true
    | .mk l => nrLogical l
  def nrLogical : Logical → Bool
    | .one e => nrEquality e
    | .bin e _ n => nrEquality e && nrLogical n
  def nrEquality : Equality → Bool
    | .one c => nrComparison c
    | .bin c _ n => nrComparison c && nrEquality n
  def nrComparison : Comparison → Bool
    | .one u => nrUnary u
    | .bin u _ n => nrUnary u && nrComparison n
  def nrUnary : Unary → Bool
    | .op _ u => nrUnary u
    | .pri p => nrPrimary p
  def nrPrimary : Primary → Bool
    | .sub e => nrExpr e
    | .call _ params sel _ helper => helper != some "redact" && nrParams params && nrSel sel
    | _ => true
  def nrParams : Params → Bool
    | .none => true
    | .some ps => nrParamList ps
  def nrParamList : ParamList → Bool
    | .nil => true
    | .cons p rest => nrParam p && nrParamList rest
  def nrParam : Param → Bool
    | .expr e => nrExpr e
    | _ => true
  def nrSel : Sel → Bool
    | .none => true
    | .mk _ _ _ _ e => nrExpr e
end

theorem ite_some_fst {c : Prop} [Decidable c] {α β : Type} {a o : α} {b w : β} {rest : Option (α × β)}
    (h : (if c then some (a, b) else rest) = some (o, w)) : o = a ∨ rest = some (o, w) := by
  by_cases hc : c
  · rw [if_pos hc] at h
    cases h
    exact .inl rfl
  · rw [if_neg hc] at h
    exact .inr h

theorem applyHelper_obj {name : String} {obj : Json} {v : Val} {ps : List Val} {o : Json} {w : Val}
    (h : applyHelper name obj v ps = some (o, w)) :
    o = obj ∨ name = "redact" := by
  unfold applyHelper at h
  -- five names before `redact`, two groups after; by cases on each condition, as `split` is
  -- very slow on this term
  iterate 5 (rcases ite_some_fst h with h' | h; exact .inl h')
  by_cases hr : (name == "redact") = true
  · exact .inr (by simpa using hr)
  rw [if_neg hr] at h
  iterate 2 (rcases ite_some_fst h with h' | h; exact .inl h')
  cases h

theorem obj_ite {c : Prop} [Decidable c] {a b : R} {obj : Json} (ha : a.obj = obj) (hb : b.obj = obj) :
    (if c then a else b).obj = obj := by
  split <;> assumption

/- Every branch of a binary node hands back the left operand's record or that of the right one
   evaluated on it: one `obj_ite` per conditional of the model. -/
mutual
  theorem frame_expr : ∀ (e : Expr) (obj : Json), nrExpr e = true → (evalExpr e obj).2 = obj
    | .empty, _, _ => rfl
    | .mk l, obj, h => frame_logical l obj h
  theorem frame_logical : ∀ (l : Logical) (obj : Json), nrLogical l = true → (evalLogical l obj).obj = obj
    | .one e, obj, h => frame_equality e obj h
    | .bin e _ n, obj, h =>
      have ⟨ha, hb⟩ := Bool.and_eq_true_iff.mp h
      have h1 := frame_equality e obj ha
      have h2 := (frame_logical n _ hb).trans h1
      obj_ite h1 (obj_ite h1 (obj_ite h1 (obj_ite h2 h2)))
  theorem frame_equality : ∀ (q : Equality) (obj : Json), nrEquality q = true → (evalEquality q obj).obj = obj
    | .one c, obj, h => frame_comparison c obj h
    | .bin c _ n, obj, h =>
      have ⟨ha, hb⟩ := Bool.and_eq_true_iff.mp h
      have h1 := frame_comparison c obj ha
      have h2 := (frame_equality n _ hb).trans h1
      obj_ite h1 (obj_ite h2 h2)
  theorem frame_comparison : ∀ (c : Comparison) (obj : Json), nrComparison c = true → (evalComparison c obj).obj = obj
    | .one u, obj, h => frame_unary u obj h
    | .bin u _ n, obj, h =>
      have ⟨ha, hb⟩ := Bool.and_eq_true_iff.mp h
      have h1 := frame_unary u obj ha
      have h2 := (frame_comparison n _ hb).trans h1
      obj_ite h1 (obj_ite h2 h2)
  theorem frame_unary : ∀ (u : Unary) (obj : Json), nrUnary u = true → (evalUnary u obj).obj = obj
    | .pri p, obj, h => frame_primary p obj h
    | .op o u, obj, h => by
      have h1 := frame_unary u obj h
      refine obj_ite h1 ?_
      -- by the operand's value: a boolean, a decimal, an integer (each negated or left alone),
      -- anything else; only the value changes
      split
      · exact obj_ite h1 h1
      · exact obj_ite h1 h1
      · exact obj_ite h1 h1
      · exact h1
  theorem frame_primary : ∀ (p : Primary) (obj : Json), nrPrimary p = true → (evalPrimary p obj).obj = obj
    | .sub e, obj, h => frame_expr e obj h
    | .call ident params sel jsonPath helper, obj, h => by
      have ⟨h3, hsel⟩ := Bool.and_eq_true_iff.mp h
      have ⟨hh, hps⟩ := Bool.and_eq_true_iff.mp h3
      cases jsonPath with
      | none =>
        cases sel with
        | none => rfl
        | mk i k r hasE e =>
          cases hasE with
          | false => rfl
          | true => exact frame_expr e obj hsel
      | some p =>
        refine obj_ite rfl ?_
        cases helper with
        | none => rfl
        | some name =>
          have hp := frame_params params obj hps
          have hne : name ≠ "redact" := by simpa using hh
          simp only
          split
          · next o w happ => exact ((applyHelper_obj happ).resolve_right hne).trans hp
          · exact hp
    | .bool _, _, _ => rfl
    | .num _, _, _ => rfl
    | .str _, _, _ => rfl
    | .regex _, _, _ => rfl
    | .nil, _, _ => rfl
  theorem frame_params : ∀ (ps : Params) (obj : Json), nrParams ps = true → (evalParams ps obj).2 = obj
    | .none, _, _ => rfl
    | .some l, obj, h => frame_paramList l obj h
  theorem frame_paramList : ∀ (l : ParamList) (obj : Json), nrParamList l = true → (evalParamList l obj).2 = obj
    | .nil, _, _ => rfl
    | .cons p rest, obj, h =>
      have ⟨ha, hb⟩ := Bool.and_eq_true_iff.mp h
      (frame_paramList rest _ hb).trans (frame_param p obj ha)
  theorem frame_param : ∀ (p : Param) (obj : Json), nrParam p = true → (evalParam p obj).2 = obj
    | .path _, _, _ => rfl
    | .time, _, _ => rfl
    | .expr e, obj, h => frame_expr e obj h
end

/-- C14: a prepared query in which no helper is `redact` — whatever its shape, depth,
    helpers, selectors, and whether or not it matches — returns the record it was given. -/
theorem c14_frame (e : Expr) (record : Json) (h : nrExpr e = true) :
    (eval e record).2 = record :=
  frame_expr e record h

end KsVerif.Proofs.C14
