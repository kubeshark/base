/-
  C10 — pairing is independent of goroutine interleaving.

  The register functions run under the matcher's mutex (`c10_shapes_atomic`, on the shapes
  regenerated from the Go sources), so a step of either goroutine is one atomic `Match.register`:
  a schedule induces an arrival history, and C09 applies to it.
-/
import KsVerif.Proofs.C09
import KsVerif.Sched.Protocols
import KsVerif.Generated.GenAtomicShapes

namespace KsVerif.Proofs.C10
open KsVerif.Match KsVerif.Sched

/-- `true` lets the client-side goroutine register its next request (ordinal `i+1`), `false` the
    server-side goroutine its next response (`j+1`); one that has used up its `n` (`m`) does nothing. -/
def historyOf (n m : Nat) : Nat → Nat → List Bool → List (Nat × Side)
  | _, _, [] => []
  | i, j, true :: rest =>
    if i < n then (i + 1, Side.req) :: historyOf n m (i + 1) j rest else historyOf n m i j rest
  | i, j, false :: rest =>
    if j < m then (j + 1, Side.resp) :: historyOf n m i (j + 1) rest else historyOf n m i j rest

theorem mem_historyOf {n m : Nat} (s : List Bool) : ∀ {i j : Nat} (k : Nat),
    ((k, Side.req) ∈ historyOf n m i j s ↔ i < k ∧ k ≤ n ∧ k ≤ i + s.count true) ∧
    ((k, Side.resp) ∈ historyOf n m i j s ↔ j < k ∧ k ≤ m ∧ k ≤ j + s.count false) := by
  induction s with
  | nil =>
    intro i j k
    simp only [historyOf, List.not_mem_nil, List.count_nil, false_iff]
    omega
  | cons b s ih =>
    intro i j k
    -- the message consed on, if any, has ordinal `i+1` (`j+1`); `ih` covers the tail from there
    cases b <;> simp only [historyOf] <;> split <;> simp [ih] <;> omega

theorem historyOf_nodup {n m : Nat} (s : List Bool) : ∀ {i j : Nat}, (historyOf n m i j s).Nodup := by
  induction s with
  | nil => intro i j; exact List.nodup_nil
  | cons b s ih =>
    intro i j
    cases b <;> simp only [historyOf] <;> split
    · exact List.nodup_cons.mpr ⟨fun h => by have := (mem_historyOf s _).2.mp h; omega, ih⟩
    · exact ih
    · exact List.nodup_cons.mpr ⟨fun h => by have := (mem_historyOf s _).1.mp h; omega, ih⟩
    · exact ih

theorem pairing_of_ordinals {h : List (Nat × Side)} (hnd : h.Nodup) {n m : Nat}
    (hreq : ∀ k, (k, Side.req) ∈ h ↔ 1 ≤ k ∧ k ≤ n) (hresp : ∀ k, (k, Side.resp) ∈ h ↔ 1 ≤ k ∧ k ≤ m) :
    let st := run (State.init : State Nat) h
    (∀ k, k ∈ st.emitted ↔ (1 ≤ k ∧ k ≤ n ∧ k ≤ m)) ∧ st.emitted.Nodup ∧
    (∀ k, st.map k = some Side.req ↔ (m < k ∧ 1 ≤ k ∧ k ≤ n)) ∧
    (∀ k, st.map k = some Side.resp ↔ (n < k ∧ 1 ≤ k ∧ k ≤ m)) := by
  have hp := C09.c09_pairing h hnd
  refine ⟨fun k => ?_, hp.2.1, fun k => ?_, fun k => ?_⟩
  · rw [hp.1 k, hreq, hresp]
    omega
  · rw [hp.2.2 k Side.req, Side.other, hreq, hresp]
    omega
  · rw [hp.2.2 k Side.resp, Side.other, hreq, hresp]
    omega

/-- Any schedule, complete or not, ends as the complete run of the `min n #true` requests and
    `min m #false` responses it lets through. -/
theorem c10_outcome (n m : Nat) (s : List Bool) :
    let st := run (State.init : State Nat) (historyOf n m 0 0 s)
    let n' := min n (s.count true)
    let m' := min m (s.count false)
    (∀ k, k ∈ st.emitted ↔ (1 ≤ k ∧ k ≤ n' ∧ k ≤ m')) ∧ st.emitted.Nodup ∧
    (∀ k, st.map k = some Side.req ↔ (m' < k ∧ 1 ≤ k ∧ k ≤ n')) ∧
    (∀ k, st.map k = some Side.resp ↔ (n' < k ∧ 1 ≤ k ∧ k ≤ m')) :=
  pairing_of_ordinals (historyOf_nodup s)
    (fun k => by rw [(mem_historyOf s k).1, Nat.le_min, Nat.zero_add]; exact Iff.rfl)
    (fun k => by rw [(mem_historyOf s k).2, Nat.le_min, Nat.zero_add]; exact Iff.rfl)

/-- The client-side goroutine registers `n` requests, the server-side one `m` responses (k-th with
    k-th). Under every schedule that lets both finish, the pairs emitted are the ordinals `1 … min n m`,
    each once, and the matcher keeps the unanswered requests or unsolicited responses: the outcome of
    dissecting one direction after the other. -/
theorem c10_schedule_independent (n m : Nat) (s : List Bool)
    (hc : n ≤ s.count true) (hs : m ≤ s.count false) :
    let st := run (State.init : State Nat) (historyOf n m 0 0 s)
    (∀ k, k ∈ st.emitted ↔ (1 ≤ k ∧ k ≤ n ∧ k ≤ m)) ∧ st.emitted.Nodup ∧
    (∀ k, st.map k = some Side.req ↔ (m < k ∧ 1 ≤ k ∧ k ≤ n)) ∧
    (∀ k, st.map k = some Side.resp ↔ (n < k ∧ 1 ≤ k ∧ k ≤ m)) := by
  have := c10_outcome n m s
  rwa [Nat.min_eq_left hc, Nat.min_eq_left hs] at this

/-- Two schedules give the same emitted set and the same residue. -/
theorem c10_any_two_schedules_agree (n m : Nat) (s₁ s₂ : List Bool)
    (h1 : n ≤ s₁.count true) (h1' : m ≤ s₁.count false)
    (h2 : n ≤ s₂.count true) (h2' : m ≤ s₂.count false) :
    (∀ k, k ∈ (run (State.init : State Nat) (historyOf n m 0 0 s₁)).emitted ↔
          k ∈ (run (State.init : State Nat) (historyOf n m 0 0 s₂)).emitted) := by
  intro k
  rw [(c10_schedule_independent n m s₁ h1 h1').1 k, (c10_schedule_independent n m s₂ h2 h2').1 k]

/-- The register functions of the three matchers that look up and store are atomic
    (regenerated shapes; a removed or narrowed mutex makes this false). -/
theorem c10_shapes_atomic :
    isAtomicRegister Gen.Shapes.httpRegisterRequest = true ∧
    isAtomicRegister Gen.Shapes.httpRegisterResponse = true ∧
    isAtomicRegister Gen.Shapes.redisRegisterRequest = true ∧
    isAtomicRegister Gen.Shapes.redisRegisterResponse = true ∧
    isAtomicRegister Gen.Shapes.amqpRegisterRequest = true ∧
    isAtomicRegister Gen.Shapes.amqpRegisterResponse = true := by decide

/-- server first on exchange 1, client first on exchange 2 -/
example : (run (State.init : State Nat) (historyOf 2 2 0 0 [false, true, true, false])).emitted = [1, 2] := by
  decide

end KsVerif.Proofs.C10
