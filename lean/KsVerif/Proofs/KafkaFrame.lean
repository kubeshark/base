/-
  Kafka, on every input: each reader of decode.go consumes bytes of the current message only (`Within`), so
  `discardAll` after any reading ends where the message does, and an accepted request or response leaves
  its half exactly 4 + size bytes on.  Last, the element loop fills exactly the slots it is given
  (`repeatDec_chainLen`).
-/
import KsVerif.Kafka.Model
import KsVerif.Proofs.Lemmas

namespace KsVerif.Proofs.C06
open KsVerif KsVerif.Kafka

/-- `d` is `d0` after consuming `c` bytes of the message, never more than it holds -/
def Within (d0 d : D) : Prop :=
  ∃ c, c ≤ d0.remain ∧ d.stream = d0.stream.drop c ∧ d.remain = d0.remain - c

theorem Within.refl (d : D) : Within d d := ⟨0, Nat.zero_le _, by simp, by simp⟩

theorem Within.trans {a b c : D} (h1 : Within a b) (h2 : Within b c) : Within a c := by
  obtain ⟨x, hx, hs1, hr1⟩ := h1
  obtain ⟨y, hy, hs2, hr2⟩ := h2
  exact ⟨x + y, Nat.add_le_of_le_sub' hx (hr1 ▸ hy), by rw [hs2, hs1, List.drop_drop], by rw [hr2, hr1, Nat.sub_sub]⟩

theorem within_consume (d : D) (k : Nat) (hk : k ≤ d.remain) (e : Bool) :
    Within d { stream := d.stream.drop k, remain := d.remain - k, err := e } :=
  ⟨k, hk, rfl, rfl⟩

theorem fail_within (d : D) : Within d d.fail := by
  unfold D.fail
  split
  · exact Within.refl d
  · exact within_consume d _ (Nat.min_le_left _ _) true

theorem consume_fail_within (d : D) (k : Nat) (hk : k ≤ d.remain) :
    Within d (D.fail { d with stream := d.stream.drop k, remain := d.remain - k }) :=
  Within.trans (within_consume d k hk d.err) (fail_within _)

theorem readFull_within (k : Nat) (d : D) : Within d (readFull k d).2 := by
  unfold readFull
  split
  · exact Within.refl d
  split
  · exact Within.refl d
  have hle : min k (min d.remain d.stream.length) ≤ d.remain :=
    Nat.le_trans (Nat.min_le_right _ _) (Nat.min_le_left _ _)
  dsimp only
  split
  · next h => exact within_consume d k (h ▸ hle) d.err
  · exact consume_fail_within d _ hle

theorem readInt_within (k : Nat) (d : D) : Within d (readInt k d).2 := by
  unfold readInt
  have h := readFull_within k d
  split
  all_goals
    next heq =>
    rw [heq] at h
    exact h

theorem readByte_within (d : D) : Within d (readByte d).2 := by
  unfold readByte
  have h := readFull_within 1 d
  split
  all_goals
    next heq =>
    rw [heq] at h
    exact h

theorem readN_within (n : Nat) (d : D) : Within d (readN n d).2 := by
  unfold readN
  simp only
  split
  · exact Within.refl d
  have hle : min (min n d.remain) d.stream.length ≤ d.remain :=
    Nat.le_trans (Nat.min_le_left _ _) (Nat.min_le_right _ _)
  split
  · exact within_consume d _ hle d.err
  · exact consume_fail_within d _ hle

theorem readString_within (d : D) : Within d (readString d).2 := by
  unfold readString
  have h1 := readInt_within 2 d
  simp only
  split
  · exact h1
  · exact Within.trans h1 (readN_within _ _)

theorem readBytesV_within (d : D) : Within d (readBytesV d).2 := by
  unfold readBytesV
  have h1 := readInt_within 4 d
  simp only
  split
  · exact h1
  · exact Within.trans h1 (readN_within _ _)

theorem varLoop_within : ∀ (n x s : Nat) (d : D), Within d (varLoop n x s d).2
  | 0, _, _, d => by unfold varLoop; exact Within.refl d
  | n + 1, x, s, d => by
    unfold varLoop
    have h1 := readByte_within d
    simp only
    split
    · exact h1
    · exact Within.trans h1 (varLoop_within n _ _ _)

theorem readVarInt_within (d : D) : Within d (readVarInt d).2 := by
  unfold readVarInt
  have h := varLoop_within (min 11 d.remain) 0 0 d
  split
  · next heq => rw [heq] at h; exact h
  · next heq => rw [heq] at h; exact Within.trans h (fail_within _)

theorem readVarString_within (n : Int) (d : D) : Within d (readVarString n d).2 := by
  unfold readVarString
  split
  · exact Within.refl d
  · exact readN_within _ _

theorem repeatWhile_within (f : D → Val × D) (hf : ∀ d, Within d (f d).2) :
    ∀ (n : Nat) (d : D), Within d (repeatWhile f n d).2
  | 0, d => by unfold repeatWhile; exact Within.refl d
  | n + 1, d => by
    unfold repeatWhile
    split
    · exact Within.trans (hf d) (repeatWhile_within f hf n _)
    · exact Within.refl d

theorem decodeHeader_within (d : D) : Within d (decodeHeader d).2 := by
  unfold decodeHeader
  dsimp only
  refine Within.trans ?_ (readVarString_within _ _)
  refine Within.trans ?_ (readVarInt_within _)
  refine Within.trans ?_ (readVarString_within _ _)
  exact readVarInt_within d

theorem decodeRecord_within (d : D) : Within d (decodeRecord d).2 := by
  unfold decodeRecord
  dsimp only
  refine Within.trans ?_ (repeatWhile_within _ decodeHeader_within _ _)
  refine Within.trans ?_ (readVarInt_within _)
  refine Within.trans ?_ (readVarString_within _ _)
  refine Within.trans ?_ (readVarInt_within _)
  refine Within.trans ?_ (readVarString_within _ _)
  refine Within.trans ?_ (readVarInt_within _)
  refine Within.trans ?_ (readVarInt_within _)
  refine Within.trans ?_ (readVarInt_within _)
  refine Within.trans ?_ (readInt_within 1 _)
  exact readVarInt_within d

theorem decodePrim_within (p : Prim) (d : D) : Within d (decodePrim p d).2 := by
  cases p with
  | bool => exact readByte_within d
  | int8 => exact readInt_within 1 d
  | int16 => exact readInt_within 2 d
  | int32 => exact readInt_within 4 d
  | int64 => exact readInt_within 8 d
  | str | nstr => exact readString_within d
  | bytes => exact readBytesV_within d
  | recordV0 => exact decodeRecord_within d
  | unsupported => exact Within.refl d

theorem repeatDec_within (f : D → Val × D) (z : Val) (hf : ∀ d, Within d (f d).2) :
    ∀ (n : Nat) (d : D), Within d (repeatDec f z n d).2
  | 0, d => by unfold repeatDec; exact Within.refl d
  | n + 1, d => by
    unfold repeatDec
    split
    · exact Within.trans (hf d) (repeatDec_within f z hf n _)
    · exact Within.refl d

theorem decode_within : ∀ (ty : Ty) (d : D), Within d (decode ty d).2
  | .prim p, d => by unfold decode; exact decodePrim_within p d
  | .unit, d => by unfold decode; exact Within.refl d
  | .seq _ a rest, d => by
    unfold decode
    exact Within.trans (decode_within a d) (decode_within rest _)
  | .arr e, d => by
    unfold decode
    have h1 := readInt_within 4 d
    simp only
    split
    · exact h1
    · exact Within.trans h1 (repeatDec_within _ _ (decode_within e) _ _)

theorem discardAll_stream (d : D) : d.discardAll.stream = d.stream.drop d.remain := by
  unfold D.discardAll
  simp only
  by_cases h : d.remain ≤ d.stream.length
  · rw [Nat.min_eq_left h]
  · rw [Nat.min_eq_right (by omega), List.drop_eq_nil_of_le (Nat.le_refl _), List.drop_eq_nil_of_le (by omega)]

theorem Within.discardAll {d0 d : D} (h : Within d0 d) : d.discardAll.stream = d0.stream.drop d0.remain := by
  obtain ⟨c, hc, hs, hr⟩ := h
  rw [discardAll_stream, hs, hr, List.drop_drop]
  congr 1
  omega

/-- Whatever the layout and the content, decoding a body and then `discardAll` ends exactly at the declared size.
    (`hlen`, here and in the two theorems on whole messages below, is not used: `Within.discardAll` needs none.) -/
theorem c06_body_in_frame (ty : Ty) (d : D) (hlen : d.remain ≤ d.stream.length) :
    (decode ty d).2.discardAll.stream = d.stream.drop d.remain :=
  Within.discardAll (decode_within ty d)

/-- `readInt` yields 0 when the bytes are not there, so any other value was read from bytes that were -/
theorem readInt_ne_zero {k : Nat} {d : D} (h : (readInt k d).1 ≠ 0) :
    (readInt k d).2 = { d with stream := d.stream.drop k, remain := d.remain - k } ∧ k ≤ d.stream.length := by
  unfold readInt readFull at *
  by_cases hk : k = 0
  · simp [hk, toSigned, beNat] at h
  by_cases he : d.err = true
  · simp [hk, he] at h
  by_cases hg : min k (min d.remain d.stream.length) = k
  · simp only [hk, he, hg, if_true, if_false]
    exact ⟨rfl, by omega⟩
  · simp [hk, he, hg] at h

theorem requestHeader_within (d0 : D) :
    Within d0 (readString (readInt 4 (readInt 2 (readInt 2 d0).2).2).2).2 := by
  refine Within.trans ?_ (readString_within _)
  refine Within.trans ?_ (readInt_within 4 _)
  refine Within.trans ?_ (readInt_within 2 _)
  exact readInt_within 2 d0

/-- the frame `readRequest` / `readResponse` open after a size prefix other than 0 (so its four bytes were
    there): whatever is read inside it, `discardAll` leaves the half 4 + size bytes on -/
theorem frame_end {s : Bytes} {d : D} (h0 : (readInt 4 { stream := s, remain := 4 }).1 ≠ 0)
    (h : Within { (readInt 4 { stream := s, remain := 4 }).2 with
                  remain := (readInt 4 { stream := s, remain := 4 }).1.toNat } d) :
    4 ≤ s.length ∧ d.discardAll.stream = s.drop (4 + (readInt 4 { stream := s, remain := 4 }).1.toNat) := by
  rw [Within.discardAll h, (readInt_ne_zero h0).1, List.drop_drop]
  exact ⟨(readInt_ne_zero h0).2, rfl⟩

open Lemmas (Post post_ok post_error)

/-- how `readRequest` / `readResponse` may stop: in a panic only over a selected layout with a kind
    `decodeFuncOf` cannot decode -/
def Stops (sel : Option Ty × Option Ty → Option Ty) (e : Stop) : Prop :=
  e = .panic → ∃ api ver ty, sel (lookupLayout api ver) = some ty ∧ ty.hasUnsupported = true

theorem Stops.of_ne {sel : Option Ty × Option Ty → Option Ty} {e : Stop} (h : e ≠ .panic) : Stops sel e :=
  fun he => absurd he h

section
-- `Post` is a `match`: a tactic that looks at the goal through it goes on into the guards and starts to evaluate
-- the readers.  Sealed, the goal is taken apart only by `post_ok`, `post_error`, `Post.ite`, `Post.dite`.
attribute [local irreducible] Post

theorem readRequest_post (s : Bytes) :
    Post (Stops (·.1))
      (fun p => 8 ≤ p.1.size ∧ p.1.size ≤ 1000000 ∧ 4 ≤ s.length ∧ p.2 = s.drop (4 + p.1.size.toNat))
      (readRequest s) := by
  unfold readRequest
  dsimp only
  refine .dite (fun _ => post_error.mpr (.of_ne nofun)) fun hbig => .dite (fun _ => ?_) fun hsmall => ?_
  · exact .ite (post_error.mpr (.of_ne nofun)) (post_error.mpr (.of_ne nofun))
  refine .ite (post_error.mpr (.of_ne nofun)) ?_
  split
  · next ty hl =>
    refine .dite (fun hu => post_error.mpr fun _ => ⟨_, _, ty, hl, hu⟩) fun _ => post_ok.mpr ?_
    dsimp only
    exact ⟨by omega, by omega, frame_end (by omega) (Within.trans (requestHeader_within _) (decode_within _ _))⟩
  · refine post_ok.mpr ?_
    dsimp only
    exact ⟨by omega, by omega, frame_end (by omega) (requestHeader_within _)⟩

theorem readResponse_post (open_ : List Req) (s : Bytes) :
    Post (Stops (·.2))
      (fun p => 4 ≤ (readInt 4 { stream := s, remain := 4 }).1 ∧ (readInt 4 { stream := s, remain := 4 }).1 ≤ 1000000 ∧
        4 ≤ s.length ∧ p.2.2 = s.drop (4 + (readInt 4 { stream := s, remain := 4 }).1.toNat))
      (readResponse open_ s) := by
  unfold readResponse
  dsimp only
  refine .dite (fun _ => post_error.mpr (.of_ne nofun)) fun hbig => .dite (fun _ => ?_) fun hsmall => ?_
  · exact .ite (post_error.mpr (.of_ne nofun)) (post_error.mpr (.of_ne nofun))
  split
  · exact post_error.mpr (.of_ne nofun)
  split
  · next ty hl =>
    refine .dite (fun hu => post_error.mpr fun _ => ⟨_, _, ty, hl, hu⟩) fun _ => post_ok.mpr ?_
    dsimp only
    exact ⟨by omega, by omega, frame_end (by omega) (Within.trans (readInt_within 4 _) (decode_within _ _))⟩
  · refine post_ok.mpr ?_
    dsimp only
    exact ⟨by omega, by omega, frame_end (by omega) (readInt_within 4 _)⟩
end

theorem readRequest_ok {s : Bytes} {q : Req} {rest : Bytes} (h : readRequest s = .ok (q, rest)) :
    8 ≤ q.size ∧ q.size ≤ 1000000 ∧ 4 ≤ s.length ∧ rest = s.drop (4 + q.size.toNat) :=
  (readRequest_post s).ok h

/-- Whatever API, version, layout and content, a request that Dissect accepts is consumed to exactly 4 + size
    bytes: the next message is read from the right offset, also when the API has no layout. -/
theorem c06_request_in_frame (s : Bytes) (q : Req) (rest : Bytes)
    (h : readRequest s = .ok (q, rest)) (hlen : 4 + q.size.toNat ≤ s.length) :
    rest = s.drop (4 + q.size.toNat) :=
  (readRequest_ok h).2.2.2

theorem readResponse_ok {open_ : List Req} {s : Bytes} {it : Option Item} {open' : List Req} {rest : Bytes}
    (h : readResponse open_ s = .ok (it, open', rest)) :
    4 ≤ (readInt 4 { stream := s, remain := 4 }).1 ∧ (readInt 4 { stream := s, remain := 4 }).1 ≤ 1000000 ∧
      4 ≤ s.length ∧ rest = s.drop (4 + (readInt 4 { stream := s, remain := 4 }).1.toNat) :=
  (readResponse_post open_ s).ok h

/-- A response that Dissect accepts is consumed to exactly 4 + size bytes, whatever request it answers. -/
theorem c06_response_in_frame (open_ : List Req) (s : Bytes) (it : Option Item) (open' : List Req) (rest : Bytes)
    (size : Int) (hsize : size = (readInt 4 { stream := s, remain := 4 }).1)
    (h : readResponse open_ s = .ok (it, open', rest)) (hlen : 4 + size.toNat ≤ s.length) :
    rest = s.drop (4 + size.toNat) :=
  hsize ▸ (readResponse_ok h).2.2.2

theorem zeros_chainLen (z : Val) : ∀ n, (zeros z n).chainLen = n
  | 0 => by simp [zeros, Val.chainLen]
  | n + 1 => by simp [zeros, Val.chainLen, zeros_chainLen z n]

theorem repeatDec_chainLen (f : D → Val × D) (z : Val) : ∀ n d, (repeatDec f z n d).1.chainLen = n
  | 0, d => by simp [repeatDec, Val.chainLen]
  | n + 1, d => by
    unfold repeatDec
    split
    · simp [Val.chainLen, repeatDec_chainLen f z n]
    · exact zeros_chainLen z (n + 1)

end KsVerif.Proofs.C06
