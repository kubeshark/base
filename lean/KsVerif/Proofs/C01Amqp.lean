/-
  C01 for the AMQP model.  The model writes every Go operation that can panic as an explicit `.panic`
  outcome; after the repairs in the findings ledger (DESIGN §7) none is left in read.go / main.go: no
  reader, no frame read and no run of the Dissect loop, on any bytes and any stream end, ends in one.
-/
import KsVerif.Proofs.C02Amqp

namespace KsVerif.Proofs.C01Amqp
open KsVerif.Amqp KsVerif.Proofs.C02Amqp KsVerif.Proofs.AmqpRead

def NP {α : Type} : R α → Prop
  | .ok _ => True
  | .error f => f.err.isPanic = false

def NPp : Except Fail (List (Bytes × FVal)) → Prop
  | .ok _ => True
  | .error f => f.err.isPanic = false

theorem np_of_reads {α : Type} {enough : Prop} {k : Nat} {st : St} {V : α → St → Prop} {r : R α}
    (h : Reads enough k st V r) : NP r :=
  h.cases (fun _ h => h.2.1) fun _ _ _ _ => trivial

theorem fields_np : ∀ (n : Nat),
    (∀ st r, readField n st = r → NP r) ∧
    (∀ st r, readArrayItems n st = r → NP r) ∧
    (∀ st r, readTable n st = r → NP r) ∧
    (∀ st r, readPairs n st = r → NPp r) := by
  intro n
  have ⟨hF, hA, hT, hP⟩ := fields_reads_any n
  exact ⟨fun st r h => h ▸ np_of_reads (hF st), fun st r h => h ▸ np_of_reads (hA st), fun st r h => h ▸ np_of_reads (hT st),
    fun st r h => h ▸ (hP st).cases (fun _ q => q.1) fun _ _ => trivial⟩

theorem readKind_np (fuel : Nat) (name : String) (k : Kind) (st : St) : NP (readKind fuel name k st) :=
  np_of_reads (readKind_reads fuel name k st)

theorem readArgs_np (fuel : Nat) : ∀ (fields : List (String × Kind)) (st : St), NP (readArgs fuel fields st) :=
  fun fields st => np_of_reads (readArgs_reads fuel fields st)

theorem readProps_np (fuel flags : Nat) : ∀ (ps : List (Nat × String × Kind)) (st : St), NP (readProps fuel flags ps st) :=
  fun ps st => np_of_reads (readProps_reads fuel flags ps st)

theorem parsedFrame_np (fuel typ channel size : Nat) (st7 : St) : NP (parsedFrame fuel typ channel size st7) :=
  np_of_reads (parsedFrame_reads fuel typ channel size st7)

theorem dissect_np (isClient : Bool) : ∀ (fuel : Nat) (s : DState) (st : St), (dissect isClient fuel s st).2.isPanic = false :=
  fun fuel s st => (dissect_bounds isClient fuel s st).2.1

/-- **C01 (AMQP, model).** For every byte sequence and every stream end, the modelled Dissect loop ends
    with the end of the stream, a reader error or a rejected frame - never with a panic outcome. -/
theorem c01_amqp_no_panic (isClient : Bool) (bytes : Bytes) (tail : Tail) :
    (dissectAll isClient bytes tail).2.isPanic = false :=
  (dissectAll_bounds isClient bytes tail).2.1

end KsVerif.Proofs.C01Amqp
