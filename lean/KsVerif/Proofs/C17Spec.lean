/-
  C17 - the model of ExpandMacros against the token-level spec.  `expandOne` reads one pass, the
  regexp `(?<![\w.])name(?![\w.])(?=(?:[^"\\]|\\.|"(?:[^"\\]|\\.)*")*$)`, as a scan from left to
  right with the look-ahead `closedAfter` over the whole remainder.  The spec: split the text into
  string literals, identifiers and other characters, replace the identifiers that ARE a macro name,
  copy the rest byte for byte.  Proved for texts with terminated literals and no backslash; a
  backslash, an unterminated literal and non-ASCII letters outside literals are left to the
  correspondence runs.
-/
import KsVerif.Proofs.C17

namespace KsVerif.Proofs.C17
open KsVerif.Kfl.Macro

theorem tok_word : ∀ (w acc r : List Char), w.all isWordDot = true →
    (∀ x, r.head? = some x → isWordDot x = false) →
    tokenizeAux (w ++ r) (some (0, acc)) = .word (acc.reverse ++ w) :: tokenizeAux r none := by
  intro w
  induction w with
  | nil =>
    intro acc r _ hr
    cases r with
    | nil => simp [tokenizeAux]
    | cons c rest =>
      cases hq : c == '"' <;> simp [tokenizeAux, hr c rfl, hq]
  | cons x xs ih =>
    intro acc r hw hr
    simp only [List.all_cons, Bool.and_eq_true] at hw
    simp only [List.cons_append, tokenizeAux, hw.1, if_true]
    rw [ih (x :: acc) r hw.2 hr]
    simp

theorem tok_lit : ∀ (body acc r : List Char), quoteCount body = 0 → '\\' ∉ body →
    tokenizeAux (body ++ '"' :: r) (some (1, acc)) = .lit (acc.reverse ++ body ++ ['"']) :: tokenizeAux r none := by
  intro body
  induction body with
  | nil => intro acc r _ _; simp [tokenizeAux]
  | cons x xs ih =>
    intro acc r hq hb
    have hq' := quoteCount_eq_zero.mp hq
    rw [List.mem_cons, not_or] at hq' hb
    have hxq : (x == '"') = false := by simpa using Ne.symm hq'.1
    have hxb : (x == '\\') = false := by simpa using Ne.symm hb.1
    simp only [List.cons_append, tokenizeAux, hxq, hxb]
    rw [ih (x :: acc) r (quoteCount_eq_zero.mpr hq'.2) hb.2]
    simp

theorem tokenize_word (c : Char) (w r : List Char) (hc : isWordDot c = true)
    (hw : w.all isWordDot = true) (hr : ∀ x, r.head? = some x → isWordDot x = false) :
    tokenizeAux (c :: (w ++ r)) none = .word (c :: w) :: tokenizeAux r none := by
  have hq : c ≠ '"' := by
    rintro rfl
    cases hc
  simpa [tokenizeAux, hq, hc] using tok_word w [c] r hw hr

theorem tokenize_lit (b r : List Char) (hq : quoteCount b = 0) (hb : '\\' ∉ b) :
    tokenizeAux ('"' :: (b ++ '"' :: r)) none = .lit ('"' :: (b ++ ['"'])) :: tokenizeAux r none := by
  simpa [tokenizeAux] using tok_lit b ['"'] r hq hb

theorem tokenize_other (c : Char) (r : List Char) (hc : isWordDot c = false) (hq : c ≠ '"') :
    tokenizeAux (c :: r) none = .other c :: tokenizeAux r none := by
  simp [tokenizeAux, hc, hq]

theorem dom_append (a r : List Char) (ha : quoteCount a % 2 = 0) (hb : '\\' ∉ a) :
    (evenQuotes (a ++ r) = true ∧ '\\' ∉ a ++ r) ↔ (evenQuotes r = true ∧ '\\' ∉ r) := by
  rw [evenQuotes_iff, evenQuotes_iff, quoteCount_append, Nat.add_mod, ha, Nat.zero_add, Nat.mod_mod,
    List.mem_append, not_or, and_iff_right hb]

theorem quoteCount_lit {b : List Char} (hq : quoteCount b = 0) : quoteCount ('"' :: (b ++ ['"'])) % 2 = 0 := by
  rw [quoteCount_cons, quoteCount_append, hq]; rfl

/-- how such a text starts - an identifier, a string literal or another character - and the token
    the tokenizer makes of that -/
theorem decomp (c : Char) (rest : List Char) (heven : evenQuotes (c :: rest) = true)
    (hbs : '\\' ∉ c :: rest) :
    (isWordDot c = true ∧ ∃ w' r, (c :: w').all isWordDot = true ∧
        (∀ x, r.head? = some x → isWordDot x = false) ∧ r.length ≤ rest.length ∧
        evenQuotes r = true ∧ '\\' ∉ r ∧ c :: rest = (c :: w') ++ r ∧
        tokenizeAux (c :: rest) none = .word (c :: w') :: tokenizeAux r none)
    ∨ (c = '"' ∧ ∃ b r, quoteCount b = 0 ∧ '\\' ∉ b ∧ r.length < rest.length ∧
        evenQuotes r = true ∧ '\\' ∉ r ∧ c :: rest = '"' :: (b ++ '"' :: r) ∧
        tokenizeAux (c :: rest) none = .lit ('"' :: (b ++ ['"'])) :: tokenizeAux r none)
    ∨ (isWordDot c = false ∧ c ≠ '"' ∧ c ≠ '\\' ∧ evenQuotes rest = true ∧ '\\' ∉ rest ∧
        tokenizeAux (c :: rest) none = .other c :: tokenizeAux rest none) := by
  by_cases hw : isWordDot c = true
  · obtain ⟨w', r, rfl, hw', hrh⟩ := exists_run isWordDot rest
    have hall : (c :: w').all isWordDot = true := by simp [hw, hw']
    obtain ⟨hqr, hbr⟩ := (dom_append (c :: w') r (by rw [quoteCount_of_wordDot _ hall])
      (not_mem_of_wordDot hall (by decide))).mp ⟨heven, hbs⟩
    exact Or.inl ⟨hw, w', r, hall, hrh, by simp, hqr, hbr, rfl, tokenize_word c w' r hw hw' hrh⟩
  · have hwf : isWordDot c = false := by simpa using hw
    by_cases hq : c = '"'
    · subst hq
      obtain ⟨b, r', rfl, hb, hrh⟩ := exists_run (· != '"') rest
      have hbq : quoteCount b = 0 :=
        quoteCount_eq_zero.mpr fun h => by simpa using List.all_eq_true.mp hb _ h
      have hbb : '\\' ∉ b := fun h => hbs (by simp [h])
      cases r' with
      | nil => simp [evenQuotes_iff, quoteCount_cons, hbq] at heven
      | cons x r =>
        have hx : x = '"' := by simpa using hrh x rfl
        subst hx
        have e : '"' :: (b ++ '"' :: r) = ('"' :: (b ++ ['"'])) ++ r := by simp
        rw [e] at heven hbs
        obtain ⟨hqr, hbr⟩ := (dom_append _ r (quoteCount_lit hbq) (by simp [hbb])).mp ⟨heven, hbs⟩
        exact Or.inr (Or.inl ⟨rfl, b, r, hbq, hbb, by simp; omega, hqr, hbr, rfl,
          tokenize_lit b r hbq hbb⟩)
    · have hcb : c ≠ '\\' := fun h => hbs (by simp [h])
      obtain ⟨hqr, hbr⟩ := (dom_append [c] rest (by simp [quoteCount, hq])
        (by simpa using Ne.symm hcb)).mp ⟨heven, hbs⟩
      exact Or.inr (Or.inr ⟨hwf, hq, hcb, hqr, hbr, tokenize_other c rest hwf hq⟩)

def render : List Tok → List Char
  | [] => []
  | .lit s :: rest => s ++ render rest
  | .opened s :: rest => s ++ render rest
  | .other c :: rest => c :: render rest
  | .word w :: rest => w ++ render rest

def isWordTok : Tok → Bool
  | .word _ => true
  | _ => false

/-- what the tokenizer produces on a text with terminated literals and no backslash: non-empty
    identifiers never adjacent to one another, literals `"body"`, single other characters -/
def WF : List Tok → Prop
  | [] => True
  | .word w :: rest => w ≠ [] ∧ w.all isWordDot = true ∧
      (∀ t, rest.head? = some t → isWordTok t = false) ∧ WF rest
  | .lit s :: rest => (∃ b, s = '"' :: (b ++ ['"']) ∧ quoteCount b = 0 ∧ '\\' ∉ b) ∧ WF rest
  | .other c :: rest => isWordDot c = false ∧ c ≠ '"' ∧ c ≠ '\\' ∧ WF rest
  | .opened _ :: _ => False

theorem render_append : ∀ (a b : List Tok), render (a ++ b) = render a ++ render b := by
  intro a
  induction a with
  | nil => intro b; rfl
  | cons t ts ih =>
    intro b
    cases t <;> simp [render, ih]

theorem render_head (ts : List Tok) (hwf : WF ts)
    (hh : ∀ t, ts.head? = some t → isWordTok t = false) :
    ∀ x, (render ts).head? = some x → isWordDot x = false := by
  intro x hx
  cases ts with
  | nil => simp [render] at hx
  | cons t rest =>
    cases t with
    | word w =>
      have := hh (.word w) rfl
      simp [isWordTok] at this
    | opened s => simp [WF] at hwf
    | other c =>
      simp only [render, List.head?_cons, Option.some.injEq] at hx
      subst hx
      exact hwf.1
    | lit s =>
      obtain ⟨⟨b, hs, _, _⟩, _⟩ := hwf
      subst hs
      simp only [render, List.cons_append, List.head?_cons, Option.some.injEq] at hx
      subst hx
      exact quote_not_wordDot

theorem tok_render : ∀ (ts : List Tok), WF ts → tokenizeAux (render ts) none = ts := by
  intro ts
  induction ts with
  | nil => intro _; rfl
  | cons t rest ih =>
    intro hwf
    cases t with
    | opened s => exact hwf.elim
    | other c =>
      obtain ⟨h1, h2, _, h4⟩ := hwf
      rw [render, tokenize_other c _ h1 h2, ih h4]
    | lit s =>
      obtain ⟨⟨b, rfl, hb1, hb2⟩, h4⟩ := hwf
      rw [render, List.cons_append, List.append_assoc, List.singleton_append,
        tokenize_lit b _ hb1 hb2, ih h4]
    | word w =>
      obtain ⟨h1, h2, h3, h4⟩ := hwf
      cases w with
      | nil => exact absurd rfl h1
      | cons c cs =>
        simp only [List.all_cons, Bool.and_eq_true] at h2
        rw [render, List.cons_append, tokenize_word c cs _ h2.1 h2.2 (render_head rest h4 h3), ih h4]

theorem dom_render : ∀ (ts : List Tok), WF ts → evenQuotes (render ts) = true ∧ '\\' ∉ render ts := by
  intro ts
  induction ts with
  | nil => intro _; simp [render, evenQuotes, quoteCount]
  | cons t rest ih =>
    intro hwf
    cases t with
    | opened s => exact hwf.elim
    | other c =>
      obtain ⟨_, h2, h3, h4⟩ := hwf
      exact (dom_append [c] _ (by simp [h2, quoteCount])
        (by simpa using Ne.symm h3)).mpr (ih h4)
    | lit s =>
      obtain ⟨⟨b, rfl, hb1, hb2⟩, h4⟩ := hwf
      exact (dom_append _ _ (quoteCount_lit hb1)
        (by simp [hb2])).mpr (ih h4)
    | word w =>
      obtain ⟨_, h2, _, h4⟩ := hwf
      exact (dom_append w _ (by rw [quoteCount_of_wordDot w h2]) (not_mem_of_wordDot h2 (by decide))).mpr (ih h4)

/-- `n` bounds the length for the induction, which also needs the third part: no identifier token
    follows a text that does not start with a word character -/
theorem tokenize_wf :
    ∀ (n : Nat) (s : List Char), s.length ≤ n → evenQuotes s = true → '\\' ∉ s →
      WF (tokenizeAux s none) ∧ render (tokenizeAux s none) = s ∧
      ((∀ x, s.head? = some x → isWordDot x = false) →
        ∀ t, (tokenizeAux s none).head? = some t → isWordTok t = false) := by
  intro n
  induction n with
  | zero =>
    intro s hl _ _
    rw [List.length_eq_zero_iff.mp (Nat.le_zero.mp hl)]
    exact ⟨trivial, rfl, fun _ _ h => nomatch h⟩
  | succ n ih =>
    intro s hl heven hbs
    cases s with
    | nil => exact ih [] (Nat.zero_le n) heven hbs
    | cons c rest =>
      simp only [List.length_cons] at hl
      rcases decomp c rest heven hbs with ⟨hw, w', r, hall, hrh, hrl, hqr, hbr, hs, htk⟩
        | ⟨hq, b, r, hbq, hbb, hrl, hqr, hbr, hs, htk⟩
        | ⟨hwf, hq, hb, hqr, hbr, htk⟩
      · obtain ⟨i1, i2, i3⟩ := ih r (by omega) hqr hbr
        rw [htk]
        refine ⟨⟨by simp, hall, i3 hrh, i1⟩, ?_, ?_⟩
        · rw [render, i2, hs]
        · exact fun hh => absurd (hh c rfl) (by simp [hw])
      · obtain ⟨i1, i2, _⟩ := ih r (by omega) hqr hbr
        rw [htk]
        refine ⟨⟨⟨b, rfl, hbq, hbb⟩, i1⟩, ?_, ?_⟩
        · rw [render, i2, hs]
          simp
        · exact fun _ t ht => Option.some.inj ht ▸ rfl
      · obtain ⟨i1, i2, _⟩ := ih rest (by omega) hqr hbr
        rw [htk]
        refine ⟨⟨hwf, hq, hb, i1⟩, ?_, ?_⟩
        · rw [render, i2]
        · exact fun _ t ht => Option.some.inj ht ▸ rfl

theorem WF_render_tokenize (q : List Char) (heven : evenQuotes q = true) (hbs : '\\' ∉ q) :
    WF (tokenize q) ∧ render (tokenize q) = q :=
  let h := tokenize_wf q.length q (Nat.le_refl _) heven hbs
  ⟨h.1, h.2.1⟩

theorem lookup_cons (m : String × String) (t : List (String × String)) (w : List Char) :
    lookupMacro (m :: t) w = if m.1.toList = w then some (wrap m.2) else lookupMacro t w := by
  simp only [lookupMacro, List.find?_cons]
  by_cases h : m.1.toList = w
  · simp [h]
  · simp [h, beq_eq_false_iff_ne.mpr h]

/-- One pass against the spec, compared on tokens; only here does the text come in, as the
    rendering of the tokens. -/
theorem pass_render (nameS body : String) (hn : nameS.toList.all isWord = true)
    (hne : nameS.toList ≠ []) :
    ∀ (ts : List Tok), WF ts → ∀ (prev : Option Char),
      (∀ p t, prev = some p → ts.head? = some t → isWordDot p = true → isWordTok t = false) →
      expandOneAux nameS.toList (wrap body) prev 0 (render ts) = specExpandToks [(nameS, body)] ts := by
  intro ts
  induction ts with
  | nil => exact fun _ prev _ => aux_nil _ _ prev 0
  | cons t rest ih =>
    intro hwf prev hprev
    cases t with
    | opened _ => exact hwf.elim
    | other c =>
      obtain ⟨hc, _, _, hwf⟩ := hwf
      rw [render, aux_other _ _ hn hne prev c _ hc, specExpandToks,
        ih hwf _ fun p _ hp _ h => by cases hp; simp [hc] at h]
    | lit s =>
      obtain ⟨⟨b, rfl, hbq, hbb⟩, hwf⟩ := hwf
      obtain ⟨hqr, hbr⟩ := dom_render rest hwf
      rw [render, specExpandToks, List.cons_append, List.append_assoc, List.singleton_append,
        aux_literal _ _ hn hne prev b _ hbq hqr hbb hbr,
        ih hwf _ fun p _ hp _ h => by cases hp; simp [quote_not_wordDot] at h]
      simp
    | word w =>
      obtain ⟨hwne, hw, hnext, hwf⟩ := hwf
      obtain ⟨hqr, hbr⟩ := dom_render rest hwf
      have hpv : ∀ p, prev = some p → isWordDot p = false := fun p hp =>
        Bool.eq_false_iff.mpr fun h => by simpa [isWordTok] using hprev p _ hp rfl h
      rw [render, aux_word _ _ hn hne prev w _ hpv hw hwne (render_head rest hwf hnext) hqr hbr,
        ih hwf _ fun _ t _ ht _ => hnext t ht]
      simp only [specExpandToks, lookup_cons]
      by_cases hnm : nameS.toList = w <;> simp [hnm, lookupMacro]

/-- One pass of the regexp is the token-level rewrite for that one name: identifiers equal to the
    name become the parenthesised definition; string literals, longer identifiers holding the name
    and everything else are copied. -/
theorem c17_pass_eq_spec (nameS body : String) (hn : nameS.toList.all isWord = true)
    (hne : nameS.toList ≠ []) (q : List Char) (heven : evenQuotes q = true) (hbs : '\\' ∉ q) :
    expandOne nameS.toList (wrap body) q = specExpandToks [(nameS, body)] (tokenize q) := by
  obtain ⟨hwf, hr⟩ := WF_render_tokenize q heven hbs
  have h := pass_render nameS body hn hne _ hwf none (fun _ _ h => nomatch h)
  rwa [hr] at h

def etoks (m : String × String) : List Tok := tokenize (wrap m.2)

def substTok (t : List (String × String)) : Tok → List Tok
  | .word w => match t.find? (fun m => m.1.toList == w) with
    | some m => etoks m
    | none => [.word w]
  | tok => [tok]

def substToks (t : List (String × String)) : List Tok → List Tok
  | [] => []
  | tok :: rest => substTok t tok ++ substToks t rest

/-- what the argument needs of a macro table, as one decidable check: names are identifiers;
    definitions have terminated literals and no backslash; their token lists end with `)`; and no
    identifier inside a definition is itself a macro name (closedness).  That the token lists start
    with `(` is checked as well, and not used. -/
def goodB (t : List (String × String)) : Bool :=
  t.all fun m =>
    !m.1.toList.isEmpty && m.1.toList.all isWord &&
    evenQuotes (wrap m.2) && !(wrap m.2).contains '\\' &&
    ((etoks m).head? == some (.other '(')) && ((etoks m).getLast? == some (.other ')')) &&
    (substToks t (etoks m) == etoks m) &&
    t.all fun m2 => substToks [m2] (etoks m) == etoks m

structure GoodMacro (t : List (String × String)) (m : String × String) : Prop where
  ne : m.1.toList ≠ []
  word : m.1.toList.all isWord = true
  even : evenQuotes (wrap m.2) = true
  nobs : '\\' ∉ wrap m.2
  last : (etoks m).getLast? = some (.other ')')
  closed : substToks t (etoks m) = etoks m
  closed1 : ∀ m2 ∈ t, substToks [m2] (etoks m) = etoks m

theorem GoodMacro.of_goodB {t : List (String × String)} (h : goodB t = true) {m : String × String} (hm : m ∈ t) :
    GoodMacro t m := by
  have := List.all_eq_true.mp h m hm
  simp only [Bool.and_eq_true, Bool.not_eq_true', beq_iff_eq, List.all_eq_true, List.isEmpty_eq_false_iff,
    List.contains_eq_mem, decide_eq_false_iff_not] at this
  obtain ⟨⟨⟨⟨⟨⟨⟨h1, h2⟩, h3⟩, h4⟩, _⟩, h6⟩, h7⟩, h8⟩ := this
  exact ⟨h1, List.all_eq_true.mpr h2, h3, h4, h6, h7, h8⟩

theorem GoodMacro.wf {t m} (g : GoodMacro t m) : WF (etoks m) ∧ render (etoks m) = wrap m.2 :=
  WF_render_tokenize (wrap m.2) g.even g.nobs

theorem substTok_not_word (t : List (String × String)) {tok : Tok} (h : isWordTok tok = false) :
    substTok t tok = [tok] := by
  cases tok with
  | word w => simp [isWordTok] at h
  | _ => rfl

theorem substToks_eq_flatMap (t : List (String × String)) :
    ∀ (ts : List Tok), substToks t ts = ts.flatMap (substTok t) := by
  intro ts
  induction ts with
  | nil => rfl
  | cons x xs ih => rw [substToks, ih, List.flatMap_cons]

theorem substToks_append (t : List (String × String)) (a b : List Tok) :
    substToks t (a ++ b) = substToks t a ++ substToks t b := by
  simp only [substToks_eq_flatMap, List.flatMap_append]

theorem substToks_nil (ts : List Tok) : substToks [] ts = ts := by
  rw [substToks_eq_flatMap, show substTok [] = fun t => [t] from funext fun t => by cases t <;> rfl,
    List.flatMap_singleton']

theorem substToks_subst {A B C : List (String × String)}
    (h : ∀ w, substToks A (substTok B (.word w)) = substTok C (.word w)) :
    ∀ (ts : List Tok), substToks A (substToks B ts) = substToks C ts := by
  intro ts
  induction ts with
  | nil => rfl
  | cons x xs ih =>
    simp only [substToks, substToks_append, ih]
    congr 1
    cases x with
    | word w => exact h w
    | _ => rfl

theorem spec_eq_render (t : List (String × String)) (hg : ∀ m ∈ t, render (etoks m) = wrap m.2) :
    ∀ (ts : List Tok), specExpandToks t ts = render (substToks t ts) := by
  intro ts
  induction ts with
  | nil => rfl
  | cons x xs ih =>
    cases x with
    | word w =>
      simp only [specExpandToks, substToks, substTok, lookupMacro, render_append, ih]
      cases hf : t.find? (fun m => m.1.toList == w) with
      | none => simp [render]
      | some m => simp [hg m (List.mem_of_find?_eq_some hf)]
    | _ => simp [specExpandToks, substToks, substTok, render, ih]

theorem WF_append_other (a b : List Tok) (ha : WF a) (hc : ∃ c, a.getLast? = some (.other c))
    (hb : WF b) : WF (a ++ b) := by
  obtain ⟨c, hc⟩ := hc
  induction a with
  | nil => simp at hc
  | cons x xs ih =>
    cases xs with
    | nil =>
      cases Option.some.inj hc
      exact ⟨ha.1, ha.2.1, ha.2.2.1, hb⟩
    | cons y ys =>
      have ih' := fun h => ih h (by rwa [List.getLast?_cons_cons] at hc)
      cases x with
      | opened s => exact ha.elim
      | lit s => exact ⟨ha.1, ih' ha.2⟩
      | other d => exact ⟨ha.1, ha.2.1, ha.2.2.1, ih' ha.2.2.2⟩
      | word w => exact ⟨ha.1, ha.2.1, ha.2.2.1, ih' ha.2.2.2⟩

theorem subst_head (t : List (String × String)) (ts : List Tok)
    (h : ∀ x, ts.head? = some x → isWordTok x = false) :
    ∀ x, (substToks t ts).head? = some x → isWordTok x = false := by
  intro x hx
  cases ts with
  | nil => simp [substToks] at hx
  | cons y ys =>
    have hy := h y rfl
    rw [substToks, substTok_not_word t hy] at hx
    exact Option.some.inj hx ▸ hy

theorem WF_subst (t P : List (String × String)) (hP : ∀ m ∈ P, GoodMacro t m) :
    ∀ (ts : List Tok), WF ts → WF (substToks P ts) := by
  intro ts
  induction ts with
  | nil => intro _; trivial
  | cons x xs ih =>
    intro hwf
    cases x with
    | opened s => exact hwf.elim
    | other c => exact ⟨hwf.1, hwf.2.1, hwf.2.2.1, ih hwf.2.2.2⟩
    | lit s => exact ⟨hwf.1, ih hwf.2⟩
    | word w =>
      obtain ⟨h1, h2, h3, h4⟩ := hwf
      simp only [substToks, substTok]
      cases hf : P.find? (fun m => m.1.toList == w) with
      | none => exact ⟨h1, h2, subst_head P xs h3, ih h4⟩
      | some m =>
        have g := hP m (List.mem_of_find?_eq_some hf)
        exact WF_append_other _ _ g.wf.1 ⟨_, g.last⟩ (ih h4)

theorem pass_toks (t : List (String × String)) (m : String × String) (g : GoodMacro t m)
    (ts : List Tok) (hwf : WF ts) :
    expandOne m.1.toList (wrap m.2) (render ts) = render (substToks [m] ts) := by
  rw [expandOne, pass_render m.1 m.2 g.word g.ne ts hwf none (fun _ _ h => nomatch h)]
  exact spec_eq_render [m] (fun m' hm' => by cases List.mem_singleton.mp hm'; exact g.wf.2) ts

theorem subst_compose (t P : List (String × String)) (m : String × String)
    (hP : ∀ m' ∈ P, GoodMacro t m') (_hPt : ∀ m' ∈ P, m' ∈ t) (hm : m ∈ t) :
    ∀ (ts : List Tok), substToks [m] (substToks P ts) = substToks (P ++ [m]) ts := by
  apply substToks_subst
  intro w
  simp only [substTok, List.find?_append]
  cases hf : P.find? (fun m => m.1.toList == w) with
  | some m' => exact (hP m' (List.mem_of_find?_eq_some hf)).closed1 m hm
  | none => simp [substToks, substTok]

/-- `P`: the passes done so far -/
theorem expandIn_toks (t : List (String × String)) (hg : goodB t = true) (ts : List Tok) (hwf : WF ts) :
    ∀ (rest P : List (String × String)), (∀ m ∈ rest, m ∈ t) → (∀ m ∈ P, m ∈ t) →
      expandIn rest (render (substToks P ts)) = render (substToks (P ++ rest) ts) := by
  intro rest
  induction rest with
  | nil => intro P _ _; simp [expandIn]
  | cons m rest ih =>
    intro P hr hP
    have hm : m ∈ t := hr m List.mem_cons_self
    have hPg : ∀ m' ∈ P, GoodMacro t m' := fun m' h => GoodMacro.of_goodB hg (hP m' h)
    show expandIn rest (expandOne m.1.toList (wrap m.2) _) = _
    rw [pass_toks t m (GoodMacro.of_goodB hg hm) _ (WF_subst t P hPg ts hwf),
      subst_compose t P m hPg hP hm ts,
      ih (P ++ [m]) (fun x hx => hr x (List.mem_cons_of_mem _ hx)) (fun x hx =>
        (List.mem_append.mp hx).elim (hP x) fun h => List.mem_singleton.mp h ▸ hm)]
    simp

theorem find_name_iff : ∀ {l : List (String × String)}, (l.map (·.1)).Nodup →
    ∀ (w : List Char) (a : String × String),
      l.find? (fun m => m.1.toList == w) = some a ↔ a ∈ l ∧ a.1.toList = w := by
  intro l
  induction l with
  | nil => intro _ w a; simp
  | cons x xs ih =>
    intro hn w a
    simp only [List.map_cons, List.nodup_cons] at hn
    simp only [List.find?_cons, List.mem_cons]
    by_cases hx : x.1.toList = w
    · simp only [beq_iff_eq.mpr hx, Option.some.injEq]
      refine ⟨fun h => ⟨Or.inl h.symm, h ▸ hx⟩, fun ⟨h, ha⟩ => ?_⟩
      rcases h with h | h
      · exact h.symm
      · exact absurd (List.mem_map_of_mem (f := (·.1)) h) (String.ext (hx.trans ha.symm) ▸ hn.1)
    · rw [show (x.1.toList == w) = false from by simpa using hx, ih hn.2]
      exact ⟨fun h => ⟨Or.inr h.1, h.2⟩, fun ⟨h, ha⟩ => ⟨h.resolve_left (fun e => hx (e ▸ ha)), ha⟩⟩

theorem find_perm (l1 l2 : List (String × String)) (hp : l1.Perm l2) (hn : (l1.map (·.1)).Nodup)
    (w : List Char) :
    l1.find? (fun m => m.1.toList == w) = l2.find? (fun m => m.1.toList == w) :=
  Option.ext fun a => by
    rw [find_name_iff hn, find_name_iff ((hp.map (·.1)).nodup_iff.mp hn), hp.mem_iff]

theorem substToks_perm (l1 l2 : List (String × String)) (hp : l1.Perm l2) (hn : (l1.map (·.1)).Nodup)
    (ts : List Tok) : substToks l1 ts = substToks l2 ts := by
  have : substTok l1 = substTok l2 := funext fun tok => by
    cases tok <;> simp only [substTok, find_perm l1 l2 hp hn]
  rw [substToks_eq_flatMap, substToks_eq_flatMap, this]

theorem substToks_idem (t : List (String × String)) (hg : goodB t = true) :
    ∀ (ts : List Tok), substToks t (substToks t ts) = substToks t ts := by
  apply substToks_subst
  intro w
  simp only [substTok]
  cases hf : t.find? (fun m => m.1.toList == w) with
  | some m => exact (GoodMacro.of_goodB hg (List.mem_of_find?_eq_some hf)).closed
  | none => simp [substToks, substTok, hf]

theorem spec_closed {t : List (String × String)} (hg : goodB t = true) {m : String × String}
    (hm : m ∈ t) : specExpandToks t (tokenize (wrap m.2)) = wrap m.2 := by
  have g := GoodMacro.of_goodB hg hm
  rw [spec_eq_render t (fun m hm => (GoodMacro.of_goodB hg hm).wf.2), ← etoks, g.closed, g.wf.2]

/-- all passes, in any order, amount to substituting every name at once -/
theorem expandIn_render (t order : List (String × String)) (hg : goodB t = true)
    (hn : (t.map (·.1)).Nodup) (hp : order.Perm t) (ts : List Tok) (hwf : WF ts) :
    expandIn order (render ts) = render (substToks t ts) := by
  have h := expandIn_toks t hg ts hwf order [] (fun m hm => hp.mem_iff.mp hm) (by simp)
  rwa [substToks_nil, List.nil_append,
    substToks_perm order t hp ((hp.map (·.1)).nodup_iff.mpr hn)] at h

/-- C17 for every table that passes `goodB` and has distinct names: whatever the order of the
    passes, a query with terminated literals and no backslash comes out as the token-level rewrite. -/
theorem c17_expand_eq_spec (t order : List (String × String)) (hg : goodB t = true)
    (hn : (t.map (·.1)).Nodup) (hp : order.Perm t) (q : List Char)
    (heven : evenQuotes q = true) (hbs : '\\' ∉ q) :
    expandIn order q = specExpandToks t (tokenize q) := by
  obtain ⟨hwf, hr⟩ := WF_render_tokenize q heven hbs
  rw [spec_eq_render t (fun m hm => (GoodMacro.of_goodB hg hm).wf.2), ← expandIn_render t order hg hn hp _ hwf, hr]

/-- any two orders of the macro table give the same text -/
theorem c17_order_independent (t o1 o2 : List (String × String)) (hg : goodB t = true)
    (hn : (t.map (·.1)).Nodup) (h1 : o1.Perm t) (h2 : o2.Perm t) (q : List Char)
    (heven : evenQuotes q = true) (hbs : '\\' ∉ q) :
    expandIn o1 q = expandIn o2 q := by
  rw [c17_expand_eq_spec t o1 hg hn h1 q heven hbs, c17_expand_eq_spec t o2 hg hn h2 q heven hbs]

/-- expanding an expanded query changes nothing, whatever the two orders -/
theorem c17_idempotent (t o1 o2 : List (String × String)) (hg : goodB t = true)
    (hn : (t.map (·.1)).Nodup) (h1 : o1.Perm t) (h2 : o2.Perm t) (q : List Char)
    (heven : evenQuotes q = true) (hbs : '\\' ∉ q) :
    expandIn o2 (expandIn o1 q) = expandIn o1 q := by
  obtain ⟨hwf, hr⟩ := WF_render_tokenize q heven hbs
  have e1 := expandIn_render t o1 hg hn h1 _ hwf
  rw [hr] at e1
  rw [e1, expandIn_render t o2 hg hn h2 _ (WF_subst t t (fun m hm => GoodMacro.of_goodB hg hm) _ hwf),
    substToks_idem t hg]

/-- the regenerated macro table passes the check: evaluated by the kernel at every build -/
theorem c17_table_good : goodB Gen.Macros.table = true := by decide +kernel

theorem c17_table_names_distinct :
    (Gen.Macros.table.map (·.1)).Nodup := by decide +kernel

/-- every registered macro name is a non-empty identifier -/
theorem c17_table_names_are_words :
    Gen.Macros.table.all (fun m => !m.1.toList.isEmpty && m.1.toList.all isWord) = true :=
  List.all_eq_true.mpr fun _ hm =>
    let g := GoodMacro.of_goodB c17_table_good hm
    by simp [g.ne, g.word]

/-- every registered definition has its string literals terminated -/
theorem c17_table_definitions_balanced :
    Gen.Macros.table.all (fun m => evenQuotes (wrap m.2)) = true :=
  List.all_eq_true.mpr fun _ hm => (GoodMacro.of_goodB c17_table_good hm).even

/-- no registered definition mentions a macro name outside a string literal, so an expansion never
    creates a new occurrence -/
theorem c17_table_definitions_closed :
    Gen.Macros.table.all (fun m =>
      specExpandToks Gen.Macros.table (tokenize (wrap m.2)) == wrap m.2) = true :=
  List.all_eq_true.mpr fun _ hm => beq_iff_eq.mpr (spec_closed c17_table_good hm)

theorem insertByLen_perm (m : String × String) :
    ∀ (l : List (String × String)), (insertByLen m l).Perm (m :: l) := by
  intro l
  induction l with
  | nil => exact List.Perm.refl _
  | cons x xs ih =>
    simp only [insertByLen]
    split
    · exact List.Perm.refl _
    · exact (List.Perm.cons x ih).trans (List.Perm.swap m x xs)

theorem sortByLen_perm : ∀ (t : List (String × String)), (sortByLen t).Perm t := by
  intro t
  induction t with
  | nil => exact List.Perm.refl _
  | cons x xs ih =>
    simp only [sortByLen, List.foldr_cons]
    exact (insertByLen_perm x _).trans (List.Perm.cons x ih)

/-- the model of ExpandMacros with the registered macros equals the token-level rewrite -/
theorem c17_expand_spec (q : String) (heven : evenQuotes q.toList = true) (hbs : '\\' ∉ q.toList) :
    expand q = specExpand q := by
  simp only [expand, specExpand]
  rw [c17_expand_eq_spec Gen.Macros.table _ c17_table_good c17_table_names_distinct
    (sortByLen_perm _) q.toList heven hbs]

/-- whatever order the map iteration and the sort produce, the result is the same -/
theorem c17_expand_any_order (order : List (String × String)) (hp : order.Perm Gen.Macros.table)
    (q : String) (heven : evenQuotes q.toList = true) (hbs : '\\' ∉ q.toList) :
    String.ofList (expandIn order q.toList) = expand q := by
  simp only [expand]
  rw [c17_order_independent Gen.Macros.table order _ c17_table_good c17_table_names_distinct hp
    (sortByLen_perm _) q.toList heven hbs]

theorem c17_expand_idempotent (q : String) (heven : evenQuotes q.toList = true) (hbs : '\\' ∉ q.toList) :
    expand (expand q) = expand q := by
  simp only [expand, String.toList_ofList]
  rw [c17_idempotent Gen.Macros.table _ _ c17_table_good c17_table_names_distinct
    (sortByLen_perm _) (sortByLen_perm _) q.toList heven hbs]

/-- non-vacuity: a query with a literal holding a macro name, a longer identifier holding one and
    two standalone names meets the hypotheses -/
example : evenQuotes "request.httpVersion == \"http\" and http and !redis".toList = true ∧
    '\\' ∉ "request.httpVersion == \"http\" and http and !redis".toList := by decide +kernel

end KsVerif.Proofs.C17
