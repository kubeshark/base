/-
  C01, Redis part.  In the model every Go operation of the Redis reader that can panic is an explicit
  check producing `Err.panic`; no input reaches one.
-/
import KsVerif.Proofs.RedisReader

namespace KsVerif.Proofs.C01
open KsVerif.Redis KsVerif.Proofs.RedisReader

/-- C01 (Redis): whatever bytes arrive on either half, ended by EOF or by a reader error, Dissect ends
    with an error it returns, never with a panic. -/
theorem c01_redis_no_panic (bytes : Bytes) (tail : Tail) :
    (dissectAll bytes tail).2.isPanic = false :=
  (dissect_bounds _ _).2.1

/-- What was completely received before the bad point has been handed to the matcher. -/
theorem c01_redis_prefix (fuel : Nat) (st st' : St) (p : Packet)
    (h : Redis.read (2 * st.rem.length + 4) st = .ok (p, st')) :
    dissect (fuel + 1) st = (p :: (dissect fuel st').1, (dissect fuel st').2) := by
  simp [dissect, h]

example : (dissectAll [45, 77, 79, 86, 69, 68, 32, 13, 10] .eof).2 = .badRedirect := by decide

end KsVerif.Proofs.C01
