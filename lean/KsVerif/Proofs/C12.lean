/-
  C12 — KFL evaluation returns the truth value the language defines.  Theorems over the model of
  eval.go, which the correspondence check ties to the Go evaluator on every generated query ×
  record, together with the reference semantics `Kfl.Spec`.  The theorems on integral numbers
  are the case "no fraction part" of those on all numbers in C12Dec.
-/
import KsVerif.Proofs.C12Dec

namespace KsVerif.Proofs.C12
open KsVerif.Kfl KsVerif.Proofs.C12Dec

theorem int_toString_inj {a b : Int} (h : toString a = toString b) : a = b := by
  rw [← format_integral, ← format_integral] at h
  exact congrArg Dec.num (format_inj _ _ h)

theorem nat_repr_inj {a b : Nat} (h : a.repr = b.repr) : a = b :=
  Int.ofNat.inj (int_toString_inj (a := Int.ofNat a) (b := Int.ofNat b) h)

/-- integral numbers as the evaluator meets them: an int64 of the record, or a float64
    (literal, or decimal of the record) with no fraction part -/
def integral : Json → Option Int
  | .int n => some n
  | .flt ⟨n, 0⟩ => some n
  | _ => none

theorem integral_numOf {x : Json} {n : Int} (h : integral x = some n) : numOf x = some ⟨n, 0⟩ := by
  cases x with
  | int m => cases h; rfl
  | flt d =>
    obtain ⟨m, e⟩ := d
    cases e <;> cases h
    rfl
  | _ => cases h

theorem not_arr_of_integral {x : Json} {n : Int} (h : integral x = some n) : ∀ xs, x ≠ .arr xs :=
  (numOf_spec (integral_numOf h)).1

/-- Numbers that are numerically equal compare equal, and only those: on integral numbers of any
    size `==` (eval.go compares the operands' texts) is numeric equality. -/
theorem c12_eq_integral (x y : Json) (n m : Int) (hx : integral x = some n) (hy : integral y = some m) :
    eql (.json x) (.json y) = decide (n = m) := by
  rw [eql_num (integral_numOf hx) (integral_numOf hy)]
  simp

/-- `==` agrees with `>=` and `<=` taken together, for integral numbers of any size. -/
theorem c12_eq_coherent (x y : Json) (n m : Int) (hx : integral x = some n) (hy : integral y = some m) :
    eql (.json x) (.json y) = (geq (.json x) (.json y) && leq (.json x) (.json y)) :=
  c12_eq_coherent_numeric x y _ _ (integral_numOf hx) (integral_numOf hy) (ofInt_norm n) (ofInt_norm m)

theorem evalLogical_and_false (e : Equality) (next : Logical) (obj : Json)
    (hc : (evalEquality e obj).collapse = false) (hf : boolOperand (evalEquality e obj).v = false) :
    evalLogical (.bin e "and" next) obj = { v := .ofBool false, obj := (evalEquality e obj).obj } := by
  unfold evalLogical
  simp [hc, hf]

theorem evalLogical_or_true (e : Equality) (next : Logical) (obj : Json)
    (hc : (evalEquality e obj).collapse = false) (ht : boolOperand (evalEquality e obj).v = true) :
    evalLogical (.bin e "or" next) obj = { v := .ofBool true, obj := (evalEquality e obj).obj } := by
  unfold evalLogical
  simp [hc, ht]

/-- `and` short-circuits: when the left operand is falsy the result is false, the record is
    the one the left operand left, and the right operand is never consulted. -/
theorem c12_and_short_circuit (e : Equality) (next₁ next₂ : Logical) (obj : Json)
    (hc : (evalEquality e obj).collapse = false)
    (hf : boolOperand (evalEquality e obj).v = false) :
    evalLogical (.bin e "and" next₁) obj = evalLogical (.bin e "and" next₂) obj ∧
    boolOperand (evalLogical (.bin e "and" next₁) obj).v = false := by
  rw [evalLogical_and_false e next₁ obj hc hf, evalLogical_and_false e next₂ obj hc hf]
  exact ⟨rfl, rfl⟩

/-- `or` short-circuits on a truthy left operand. -/
theorem c12_or_short_circuit (e : Equality) (next₁ next₂ : Logical) (obj : Json)
    (hc : (evalEquality e obj).collapse = false)
    (ht : boolOperand (evalEquality e obj).v = true) :
    evalLogical (.bin e "or" next₁) obj = evalLogical (.bin e "or" next₂) obj ∧
    boolOperand (evalLogical (.bin e "or" next₁) obj).v = true := by
  rw [evalLogical_or_true e next₁ obj hc ht, evalLogical_or_true e next₂ obj hc ht]
  exact ⟨rfl, rfl⟩

/-- A parenthesised (sub)expression — or the whole query — whose evaluation meets a missing
    path is false. -/
theorem c12_missing_path_false (l : Logical) (obj : Json) (h : (evalLogical l obj).collapse = true) :
    boolOperand (evalExpr (.mk l) obj).1 = false := by
  simp [evalExpr, h, boolOperand, Val.ofBool]

/-- a plain path that denotes nothing in the record makes its expression collapse -/
theorem c12_missing_path_collapses (ident : String) (p : Path) (obj : Json)
    (h : Path.getAllOf p obj = []) :
    (evalPrimary (.call ident .none .none (some p) none) obj).collapse = true := by
  unfold evalPrimary
  simp [h]

/-- `limit(n)` is true and hands the record back untouched. -/
theorem c12_limit_neutral (obj : Json) (v : Val) (ps : List Val) :
    applyHelper "limit" obj v ps = some (obj, .ofBool true) := by
  unfold applyHelper
  simp

/-- Non-vacuity: the comparison that used to fail. -/
example : eql (.json (.int 1234567)) (.json (.flt ⟨1234567, 0⟩)) = true := by
  rw [c12_eq_integral _ _ 1234567 1234567 rfl rfl]; rfl

/-- No ordering holds of a NaN: a string that spells `nan` (any case) on either side of `>`, `<`,
    `>=`, `<=` makes the comparison false against every scalar. -/
theorem c12_nan_unordered (rel : Dec → Dec → Bool) (s : String) (hs : nanJson (.str s) = true) (y : Json)
    (hy : ∀ ys, y ≠ .arr ys) :
    ordOp rel (.json (.str s)) (.json y) = false ∧ ordOp rel (.json y) (.json (.str s)) = false := by
  have hstr : Scalar (.str s) := fun _ => Json.noConfusion
  rw [ordOp_scalar rel hstr hy, ordOp_scalar rel hy hstr, hs]
  simp

/-- ... and against a list: no element is ordered with it -/
theorem c12_nan_unordered_list (rel : Dec → Dec → Bool) (s : String) (hs : nanJson (.str s) = true) (ys : List Json) :
    ordOp rel (.json (.str s)) (.json (.arr ys)) = false ∧ ordOp rel (.json (.arr ys)) (.json (.str s)) = false := by
  constructor <;>
  · unfold ordOp
    simp [nanVal, hs]

/-- not vacuous: the spellings ParseFloat reads as NaN, and two it does not -/
example : nanJson (.str "NaN") = true ∧ nanJson (.str "nan") = true ∧ nanJson (.str "NAN") = true ∧
    nanJson (.str "+nan") = false ∧ nanJson (.str "nanx") = false := by decide

example : gtr (.json (.str "Infinity")) (.json (.int 9223372036854775807)) = true ∧
    lss (.json (.str "-inf")) (.json (.int (-9223372036854775808))) = true ∧
    geq (.json (.str "Infinit")) (.json (.int 1)) = false := by decide

/-- An infinity orders above every number: for every integral number below 10^400 (the model's
    stand-in for +Inf), `"Infinity" > x` holds and `"Infinity" <= x` does not. -/
theorem c12_inf_above_integral (x : Json) (n : Int) (hx : integral x = some n) (hn : n < (10 : Int) ^ 400) :
    gtr (.json (.str "Infinity")) (.json x) = true ∧ leq (.json (.str "Infinity")) (.json x) = false := by
  have hinf : floatOfJson (.str "Infinity") = ⟨(10 : Int) ^ 400, 0⟩ := by decide
  have hnan : nanJson (.str "Infinity") = false := by decide
  obtain ⟨sx, nx, _, fx⟩ := numOf_spec (integral_numOf hx)
  have hstr : Scalar (.str "Infinity") := fun _ => Json.noConfusion
  rw [gtr, leq, ordOp_scalar _ hstr sx, ordOp_scalar _ hstr sx, nx, fx, hinf, hnan]
  simp only [Dec.lt, Dec.le, Int.pow_zero, Int.mul_one]
  simpa using hn

end KsVerif.Proofs.C12
