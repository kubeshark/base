/-
  What a reader of the AMQP model (read.go) leaves behind, stated once per reader as a `Reads`.
  No panic (C01), progress and fuel (C02), serialisable values (C11) are read off these.
-/
import KsVerif.Amqp.Model
import KsVerif.Proofs.Lemmas

namespace KsVerif.Proofs.AmqpRead
open KsVerif.Amqp KsVerif.Proofs.Lemmas

abbrev Fails := Lemmas.Fails Err.isPanic Err.outOfFuel

/-- What a read from `st` leaves: a value with `V` and a state at least `k` bytes shorter, or a failure that
    `Fails enough` and a state no longer than `st`.  `enough` says how much fuel suffices; the byte readers,
    which use none, have every `enough`. -/
def Reads {α : Type} (enough : Prop) (k : Nat) (st : St) (V : α → St → Prop) : R α → Prop :=
  Post (fun f => f.st.rem.length ≤ st.rem.length ∧ Fails enough f.err)
    (fun p => p.2.rem.length + k ≤ st.rem.length ∧ V p.1 p.2)

variable {α β : Type} {enough : Prop} {k : Nat} {st : St} {V : α → St → Prop}

theorem Reads.intro {st' : St} {a : α} (hl : st'.rem.length + k ≤ st.rem.length) (hv : V a st') :
    Reads enough k st V (.ok (a, st')) :=
  ⟨hl, hv⟩

theorem Reads.fail {st' : St} (e : Err) (hl : st'.rem.length ≤ st.rem.length) (hp : e.isPanic = false)
    (hf : e ≠ .outOfFuel) : Reads enough k st V (fail e st') :=
  ⟨hl, .of_ne hp hf⟩

/-- `Post.cases` for a reader.  Where the goal is a `Reads` from the same state, the failure case is
    `fun _ h => h`; `Reads.shift` in the other case keeps it so for the reads that follow. -/
@[elab_as_elim]
theorem Reads.cases {M : R α → Prop} {r : R α} (h : Reads enough k st V r)
    (error : ∀ f, f.st.rem.length ≤ st.rem.length ∧ Fails enough f.err → M (.error f))
    (ok : ∀ a st', st'.rem.length + k ≤ st.rem.length → V a st' → M (.ok (a, st'))) : M r :=
  Post.cases h error fun (a, st') h => ok a st' h.1 h.2

theorem Reads.ite {c : Prop} [Decidable c] {a b : R α} (ha : Reads enough k st V a) (hb : Reads enough k st V b) :
    Reads enough k st V (if c then a else b) :=
  Post.ite ha hb

/-- going on from a state `k` bytes further: `k` bytes fewer are owed -/
theorem Reads.shift {K : Nat} {W : β → St → Prop} {st1 : St} {r : R β} (hl : st1.rem.length + k ≤ st.rem.length)
    (h : Reads enough (K - k) st1 W r) : Reads enough K st W r :=
  h.imp (fun _ ⟨h1, h2⟩ => ⟨by omega, h2⟩) fun _ ⟨h1, h2⟩ => ⟨by omega, h2⟩

theorem Reads.mono {enough' : Prop} {k' : Nat} {W : α → St → Prop} {r : R α} (h : Reads enough k st V r) (hk : k' ≤ k)
    (hV : ∀ a st', V a st' → W a st') (he : enough' → enough) : Reads enough' k' st W r :=
  h.imp (fun _ ⟨h1, h2⟩ => ⟨h1, h2.mono he⟩) fun _ ⟨h1, h2⟩ => ⟨by omega, hV _ _ h2⟩

/-- the generated `read` functions of spec091.go wrap a reader's value and keep its state -/
theorem Reads.map {k' : Nat} {W : β → St → Prop} {r : R α} (h : Reads enough k st V r) (f : α × St → β × St)
    (hf : ∀ p, (f p).2 = p.2) (hW : ∀ a st', V a st' → W (f (a, st')).1 st') (hk : k' ≤ k) :
    Reads enough k' st W (r.map f) := by
  refine h.cases (fun _ h => h) fun a st' hl hv => ?_
  show (f (a, st')).2.rem.length + k' ≤ _ ∧ W _ (f (a, st')).2
  rw [show (f (a, st')).2 = st' from hf _]
  exact ⟨by omega, hW a st' hv⟩

/-- io.ReadFull.  Its failures are the stream's own, not protocol errors: a header that cannot be read
    ends the Dissect loop. -/
theorem readFull_post (m : Nat) (st : St) :
    Post (fun f => (f.st.rem.length ≤ st.rem.length ∧ Fails enough f.err) ∧ f.err.isProtocol = false)
      (fun p => p.2.rem.length + m ≤ st.rem.length ∧ p.1.length = m ∧ p.2.rem.length + m = st.rem.length)
      (readFull m st) := by
  have failed {Q : Bytes × St → Prop} (e : Err) (hp : e.isPanic = false) (hf : e ≠ .outOfFuel) (hq : e.isProtocol = false) :
      Post (fun f => (f.st.rem.length ≤ st.rem.length ∧ Fails enough f.err) ∧ f.err.isProtocol = false)
        Q (fail e { st with rem := [] }) :=
    ⟨⟨Nat.zero_le _, .of_ne hp hf⟩, hq⟩
  unfold readFull
  refine .dite (fun h0 => ?_) fun _ => .dite (fun hm => ?_) fun _ => ?_
  · exact ⟨by show st.rem.length + m ≤ _; omega, h0 ▸ rfl, by show st.rem.length + m = _; omega⟩
  · exact ⟨by simp only [List.length_drop]; omega, by simp only [List.length_take]; omega, by simp only [List.length_drop]; omega⟩
  · split
    · exact failed _ rfl (by simp) rfl
    · exact .ite (failed _ rfl (by simp) rfl) (failed _ rfl (by simp) rfl)

theorem readFull_reads (m : Nat) (st : St) :
    Reads enough m st (fun b st' => b.length = m ∧ st'.rem.length + m = st.rem.length) (readFull m st) :=
  (readFull_post m st).imp (fun _ h => h.1) fun _ h => h

theorem readUInt_reads (m : Nat) (st : St) : Reads enough m st (fun _ _ => True) (readUInt m st) := by
  unfold readUInt
  exact (readFull_reads m st).cases (fun _ h => h) fun _ _ hl _ => .intro hl trivial

theorem readShortStr_reads (st : St) : Reads enough 1 st (fun _ _ => True) (readShortStr st) := by
  unfold readShortStr
  refine (readUInt_reads 1 st).cases (fun _ h => h) fun m st1 h1 _ => .shift h1 ?_
  exact (readFull_reads m st1).mono (Nat.zero_le _) (fun _ _ _ => trivial) id

theorem readLongStr_reads (st : St) : Reads enough 4 st (fun s _ => s.length + 4 ≤ st.rem.length) (readLongStr st) := by
  unfold readLongStr
  refine (readUInt_reads 4 st).cases (fun _ h => h) fun m st1 h1 _ => .shift h1 (.ite ?_ ?_)
  · exact .intro (Nat.le_refl _) (by simp only [List.length_nil]; omega)
  · exact (readFull_reads m st1).mono (Nat.zero_le _) (fun b _ hb => by omega) id

/-- readTimestamp's clamp leaves the years 0 .. 9999 as they are and maps everything into them -/
theorem clampTime_eq {t : Int} (h : -62167219200 ≤ t ∧ t ≤ 253402300799) : clampTime t = t := by
  unfold clampTime
  rw [if_neg (by omega)]

theorem clampTime_range (t : Int) : -62167219200 ≤ clampTime t ∧ clampTime t ≤ 253402300799 := by
  unfold clampTime
  by_cases h : t < -62167219200 ∨ t > 253402300799
  · rw [if_pos h]; omega
  · rw [if_neg h]; omega

/-- the values `readField` returns without reading further fields: floats only if finite, times clamped -/
def Scalar : FVal → Prop
  | .arr _ | .table _ => False
  | .f32 b => finite32 b = true
  | .f64 b => finite64 b = true
  | .time t => -62167219200 ≤ t ∧ t ≤ 253402300799
  | _ => True

abbrev Pairs (enough : Prop) (V : FVal → Prop) : Except Fail (List (Bytes × FVal)) → Prop :=
  Post (fun f => Fails enough f.err) (fun kvs => ∀ kv ∈ kvs, V kv.2)

section
variable {V : FVal → Prop} (hs : ∀ v, Scalar v → V v) (ha : ∀ xs, (∀ x ∈ xs, V x) → V (.arr xs))
  (ht : ∀ kvs : List (Bytes × FVal), (∀ kv ∈ kvs, V kv.2) → V (.table kvs))
include hs ha ht

/-- `V`: any property of values that the scalars have and that arrays and tables inherit from their members.
    Fuel: a unit per byte and one more; the array loop needs a second, for the call that fails at its end. -/
theorem fields_reads : ∀ n : Nat,
    (∀ st, Reads (st.rem.length + 1 ≤ n) 1 st (fun v _ => V v) (readField n st)) ∧
    (∀ st, Reads (st.rem.length + 2 ≤ n) 0 st (fun xs _ => ∀ x ∈ xs, V x) (readArrayItems n st)) ∧
    (∀ st, Reads (st.rem.length + 1 ≤ n) 4 st (fun kvs _ => ∀ kv ∈ kvs, V kv.2) (readTable n st)) ∧
    (∀ st, Pairs (st.rem.length + 1 ≤ n) V (readPairs n st)) := by
  intro n
  induction n with
  | zero =>
    have h0 {p : Prop} (h : ¬ p) : Fails p .outOfFuel := ⟨rfl, fun hp => (h hp).elim⟩
    exact ⟨fun st => ⟨Nat.le_refl _, h0 (by omega)⟩, fun st => ⟨Nat.le_refl _, h0 (by omega)⟩,
      fun st => ⟨Nat.le_refl _, h0 (by omega)⟩, fun st => h0 (by omega)⟩
  | succ n ih =>
    obtain ⟨ihF, ihA, ihT, ihP⟩ := ih
    refine ⟨fun st => ?_, fun st => ?_, fun st => ?_, fun st => ?_⟩
    · unfold readField
      refine (readUInt_reads 1 st).cases (fun _ h => h) fun typ st1 h1 _ => .shift h1 ?_
      refine .ite ((readUInt_reads 1 st1).cases (fun _ h => h) fun _ _ _ _ => .intro (by omega) (hs _ ⟨⟩)) ?_   -- 't'
      refine .ite ((readUInt_reads 1 st1).cases (fun _ h => h) fun _ _ _ _ => .intro (by omega) (hs _ ⟨⟩)) ?_   -- 'b'
      refine .ite ((readUInt_reads 2 st1).cases (fun _ h => h) fun _ _ _ _ => .intro (by omega) (hs _ ⟨⟩)) ?_   -- 's'
      refine .ite ((readUInt_reads 4 st1).cases (fun _ h => h) fun _ _ _ _ => .intro (by omega) (hs _ ⟨⟩)) ?_   -- 'I'
      refine .ite ((readUInt_reads 8 st1).cases (fun _ h => h) fun _ _ _ _ => .intro (by omega) (hs _ ⟨⟩)) ?_   -- 'l'
      -- a float is reported only if finite, else as no value
      have float (b : Bool) (x : FVal) (hx : b = true → Scalar x) : Scalar (if b = true then x else .nil) := by
        split
        · exact hx ‹_›
        · exact ⟨⟩
      refine .ite ((readUInt_reads 4 st1).cases (fun _ h => h) fun _ _ _ _ => .intro (by omega) (hs _ (float _ _ id))) ?_   -- 'f'
      refine .ite ((readUInt_reads 8 st1).cases (fun _ h => h) fun _ _ _ _ => .intro (by omega) (hs _ (float _ _ id))) ?_   -- 'd'
      refine .ite ?_ ?_   -- 'D'
      · refine (readUInt_reads 1 st1).cases (fun _ h => h) fun _ st2 h2 _ => .shift h2 ?_
        dsimp only
        exact (readUInt_reads 4 st2).cases (fun _ h => h) fun _ _ _ _ => .intro (by omega) (hs _ ⟨⟩)
      refine .ite ((readLongStr_reads st1).cases (fun _ h => h) fun _ _ _ _ => .intro (by omega) (hs _ ⟨⟩)) ?_   -- 'S'
      refine .ite ?_ ?_   -- 'A'
      · refine (readUInt_reads 4 st1).cases (fun _ h => h) fun size st2 h2 _ => .shift h2 ?_
        -- the items see a window of `size` bytes (io.LimitedReader); what they leave is put back
        dsimp only
        refine (ihA { rem := st2.rem.take size, tail := if st2.rem.length ≥ size then Tail.eof else st2.tail }).cases
          (fun f ⟨hl, hf⟩ => ?_) fun xs w hl hv => ?_
        · simp only [List.length_take] at hl hf
          exact ⟨by simp only [List.length_append, List.length_drop]; omega, hf.mono (by omega)⟩
        · simp only [List.length_take] at hl
          exact ⟨by simp only [List.length_append, List.length_drop]; omega, ha _ hv⟩
      refine .ite ((readUInt_reads 8 st1).cases (fun _ h => h) fun _ _ _ _ => .intro (by omega) (hs _ (by exact clampTime_range _))) ?_   -- 'T'
      refine .ite ?_ ?_   -- 'F'
      · exact (ihT st1).cases (fun _ ⟨hl, hf⟩ => ⟨hl, hf.mono (by omega)⟩) fun _ _ hl hv => .intro (by omega) (ht _ hv)
      refine .ite ?_ ?_   -- 'x'
      · refine (readUInt_reads 4 st1).cases (fun _ h => h) fun v st2 h2 _ => .shift h2 (.ite ?_ ?_)
        · exact .fail _ (Nat.le_refl _) rfl (by simp)
        · unfold readBytesN
          exact (readFull_reads _ st2).cases (fun _ h => h) fun _ _ _ _ => .intro (by omega) (hs _ ⟨⟩)
      exact .ite (.intro (by omega) (hs _ ⟨⟩)) (.fail _ (Nat.le_refl _) rfl (by simp))   -- 'V'
    · unfold readArrayItems
      refine (ihF st).cases (fun f ⟨hl, hf⟩ => ?_) fun v st1 h1 hv => ?_
      · exact .ite (.intro hl (fun _ h => nomatch h)) ⟨hl, hf.mono (by omega)⟩
      · dsimp only
        exact (ihA st1).cases (fun _ ⟨hl, hf⟩ => ⟨by omega, hf.mono (by omega)⟩)
          fun _ _ hl hvs => .intro (by omega) (List.forall_mem_cons.mpr ⟨hv, hvs⟩)
    · unfold readTable
      refine (readLongStr_reads st).cases (fun _ h => h) fun s st1 h4 hs4 => ?_
      dsimp only
      -- the nested buffer is no longer than what the stream held: the fuel left suffices for it
      exact (ihP { rem := s, tail := .eof }).cases
        (fun _ hf => ⟨by show st1.rem.length ≤ _; omega, hf.mono (by show _ → s.length + 1 ≤ n; omega)⟩)
        fun _ hv => .intro h4 hv
    · unfold readPairs
      split
      · exact fun _ h => nomatch h
      · refine (readShortStr_reads st).cases (fun _ h => h.2) fun _ st1 h1 _ => ?_
        dsimp only
        refine (ihF st1).cases (fun _ ⟨_, hf⟩ => hf.mono (by omega)) fun v st2 h2 hv => ?_
        dsimp only
        exact (ihP st2).cases (fun _ hf => hf.mono (by omega)) fun _ hvs => List.forall_mem_cons.mpr ⟨hv, hvs⟩

end

theorem fields_reads_any (n : Nat) :
    (∀ st, Reads (st.rem.length + 1 ≤ n) 1 st (fun _ _ => True) (readField n st)) ∧
    (∀ st, Reads (st.rem.length + 2 ≤ n) 0 st (fun xs _ => ∀ x ∈ xs, True) (readArrayItems n st)) ∧
    (∀ st, Reads (st.rem.length + 1 ≤ n) 4 st (fun kvs _ => ∀ kv ∈ kvs, True) (readTable n st)) ∧
    (∀ st, Pairs (st.rem.length + 1 ≤ n) (fun _ => True) (readPairs n st)) :=
  fields_reads (fun _ _ => trivial) (fun _ _ => trivial) (fun _ _ => trivial) n

theorem readKind_reads (fuel : Nat) (name : String) (k : Kind) (st : St) :
    Reads (st.rem.length + 1 ≤ fuel) 0 st (fun _ _ => True) (readKind fuel name k st) := by
  cases k with
  | shortstr => exact (readShortStr_reads st).map _ (fun _ => rfl) (fun _ _ _ => trivial) (Nat.zero_le _)
  | longstr => exact (readLongStr_reads st).map _ (fun _ => rfl) (fun _ _ _ => trivial) (Nat.zero_le _)
  | table => exact ((fields_reads_any fuel).2.2.1 st).map _ (fun _ => rfl) (fun _ _ _ => trivial) (Nat.zero_le _)
  | _ => exact (readUInt_reads _ st).map _ (fun _ => rfl) (fun _ _ _ => trivial) (Nat.zero_le _)

theorem readArgs_reads (fuel : Nat) : ∀ (fields : List (String × Kind)) (st : St),
    Reads (st.rem.length + 1 ≤ fuel) 0 st (fun _ _ => True) (readArgs fuel fields st)
  | [], _ => .intro (Nat.le_refl _) trivial
  | (name, k) :: rest, st => by
    unfold readArgs
    refine (readKind_reads fuel name k st).cases (fun _ h => h) fun _ st1 h1 _ => .shift h1 ?_
    dsimp only
    exact (readArgs_reads fuel rest st1).cases (fun _ ⟨hl, hf⟩ => ⟨hl, hf.mono (by omega)⟩) fun _ _ hl _ => .intro hl trivial

theorem readProps_reads (fuel flags : Nat) : ∀ (ps : List (Nat × String × Kind)) (st : St),
    Reads (st.rem.length + 1 ≤ fuel) 0 st (fun _ _ => True) (readProps fuel flags ps st)
  | [], _ => .intro (Nat.le_refl _) trivial
  | (flag, name, k) :: rest, st => by
    unfold readProps
    refine .ite ?_ (readProps_reads fuel flags rest st)
    refine (readKind_reads fuel name k st).cases (fun _ h => h) fun _ st1 h1 _ => .shift h1 ?_
    dsimp only
    exact (readProps_reads fuel flags rest st1).cases (fun _ ⟨hl, hf⟩ => ⟨hl, hf.mono (by omega)⟩) fun _ _ hl _ => .intro hl trivial

end KsVerif.Proofs.AmqpRead

namespace KsVerif.Proofs.C02Amqp
open KsVerif.Amqp

/-- the payload part of readFrame (after the 7-byte header, before the frame-end octet) -/
def parsedFrame (fuel typ channel size : Nat) (st : St) : R Frame :=
  if typ = 1 then
    match readUInt 2 st with
    | .error e => .error e
    | .ok (c, st) =>
      match readUInt 2 st with
      | .error e => .error e
      | .ok (m, st) =>
        match lookupMethod c m with
        | none => fail (if classKnown c then .unknownMethod else .unknownClass) st
        | some (tname, fields) =>
          match readArgs fuel fields st with
          | .error e => .error e
          | .ok (args, st) => .ok (.method channel c m tname args, st)
  else if typ = 2 then
    match readUInt 2 st with
    | .error e => .error e
    | .ok (c, st) =>
      match readUInt 2 st with      -- weight
      | .error e => .error e
      | .ok (_, st) =>
        match readUInt 8 st with
        | .error e => .error e
        | .ok (bodySize, st) =>
          match readUInt 2 st with
          | .error e => .error e
          | .ok (flags, st) =>
            match readProps fuel flags Gen.Amqp.properties st with
            | .error e => .error e
            | .ok (props, st) => .ok (.header channel c bodySize props, st)
  else if typ = 3 then
    match readFull size st with
    | .error e => .error e
    | .ok (b, st) => .ok (.body channel b, st)
  else if typ = 8 then
    if size > 0 then fail .heartbeatPayload st else .ok (.heartbeat channel, st)
  else fail .frame st

end KsVerif.Proofs.C02Amqp

namespace KsVerif.Proofs.AmqpRead
open KsVerif.Amqp KsVerif.Proofs.Lemmas KsVerif.Proofs.C02Amqp

/-- the length of a body frame's payload, carried from one reader's account of the stream to the next's -/
theorem body_len {f : Frame} {x y x' y' : Nat} (hb : ∀ ch b, f = .body ch b → x + b.length = y)
    (h : ∀ n, x + n = y → x' + n = y') : ∀ ch b, f = .body ch b → x' + b.length = y' :=
  fun ch b e => h _ (hb ch b e)

/-- what follows the 7-byte header: the size cap, the payload, the frame-end octet -/
def frameRest (fuel typ channel size : Nat) (st7 : St) : R Frame :=
  if size > 16000000 then fail .maxSize st7
  else
    match parsedFrame fuel typ channel size st7 with
    | .error e => .error e
    | .ok (f, st) =>
      match readFull 1 st with
      | .error e => .error e
      | .ok (e, st) => if (e.getD 0 0).toNat = frameEnd then .ok (f, st) else fail .frame st

theorem readFrame_eq (st : St) : readFrame st =
    match readFull 7 st with
    | .error e => .error e
    | .ok (h, st7) =>
      frameRest (st.rem.length + 8) (h.getD 0 0).toNat (Amqp.beNat ((h.drop 1).take 2)) (Amqp.beNat ((h.drop 3).take 4)) st7 := by
  rfl

theorem parsedFrame_reads (fuel typ channel size : Nat) (st7 : St) :
    Reads (st7.rem.length + 1 ≤ fuel) 0 st7 (fun f st2 => ∀ ch b, f = .body ch b → st2.rem.length + b.length = st7.rem.length)
      (parsedFrame fuel typ channel size st7) := by
  unfold parsedFrame
  refine .ite ?_ (.ite ?_ (.ite ?_ (.ite ?_ ?_)))
  · refine (readUInt_reads 2 st7).cases (fun _ h => h) fun c st1 h1 _ => .shift h1 ?_
    dsimp only
    refine (readUInt_reads 2 st1).cases (fun _ h => h) fun m st2 h2 _ => .shift h2 ?_
    dsimp only
    split
    · exact .fail _ (Nat.le_refl _) (by split <;> rfl) (by split <;> simp)
    · rename_i tname fields _
      exact (readArgs_reads fuel fields st2).cases (fun _ ⟨hl, hf⟩ => ⟨hl, hf.mono (by omega)⟩)
        fun _ _ _ _ => .intro (by omega) nofun
  · refine (readUInt_reads 2 st7).cases (fun _ h => h) fun c st1 h1 _ => .shift h1 ?_
    dsimp only
    refine (readUInt_reads 2 st1).cases (fun _ h => h) fun _ st2 h2 _ => .shift h2 ?_
    dsimp only
    refine (readUInt_reads 8 st2).cases (fun _ h => h) fun bodySize st3 h3 _ => .shift h3 ?_
    dsimp only
    refine (readUInt_reads 2 st3).cases (fun _ h => h) fun flags st4 h4 _ => .shift h4 ?_
    dsimp only
    exact (readProps_reads fuel flags _ st4).cases (fun _ ⟨hl, hf⟩ => ⟨hl, hf.mono (by omega)⟩)
      fun _ _ _ _ => .intro (by omega) nofun
  · exact (readFull_reads size st7).cases (fun _ h => h) fun b st1 _ hb => .intro (by omega) fun _ _ h => by cases h; omega
  · exact .ite (.fail _ (Nat.le_refl _) rfl (by simp)) (.intro (Nat.le_refl _) nofun)
  · exact .fail _ (Nat.le_refl _) rfl (by simp)

theorem frameRest_reads (fuel typ channel size : Nat) (st7 : St) :
    Reads (st7.rem.length + 1 ≤ fuel) 1 st7
      (fun f st' => ∀ ch b, f = .body ch b → st'.rem.length + 1 + b.length = st7.rem.length)
      (frameRest fuel typ channel size st7) := by
  unfold frameRest
  refine .ite (.fail _ (Nat.le_refl _) rfl (by simp)) ?_
  refine (parsedFrame_reads fuel typ channel size st7).cases (fun _ h => h) fun f st2 h2 hb => .shift h2 ?_
  dsimp only
  refine (readFull_reads 1 st2).cases (fun _ h => h) fun e st3 _ he => .ite ?_ (.fail _ (by omega) rfl (by simp))
  exact .intro (by omega) (body_len hb fun n _ => by omega)

/-- What `readFrame` leaves.  It hands down more fuel (the bytes + 8) than its readers need; a protocol
    error, after which Dissect goes on reading, comes only once the 7-byte header is gone. -/
theorem readFrame_post (st : St) :
    Post (fun f => Fails True f.err ∧ (f.err.isProtocol = true → f.st.rem.length + 7 ≤ st.rem.length))
      (fun p => p.2.rem.length + 8 ≤ st.rem.length ∧
        ∀ ch b, p.1 = .body ch b → p.2.rem.length + 8 + b.length = st.rem.length) (readFrame st) := by
  rw [readFrame_eq]
  refine (readFull_post 7 st).cases (fun f ⟨⟨_, hf⟩, hp⟩ => ⟨hf, fun h => by rw [hp] at h; cases h⟩)
    fun (hd, st7) ⟨_, _, h7⟩ => ?_
  dsimp only at h7 ⊢
  exact (frameRest_reads (st.rem.length + 8) _ _ _ st7).cases
    (fun f ⟨hl, hf⟩ => ⟨hf.mono fun _ => by omega, fun _ => by omega⟩)
    fun f st' hl hb => ⟨by show st'.rem.length + 8 ≤ _; omega, body_len hb fun n _ => by show st'.rem.length + 8 + n = _; omega⟩

end KsVerif.Proofs.AmqpRead
