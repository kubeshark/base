/-
  C19 — emitting assigns unique item identities and counts exactly.
-/
import KsVerif.Sched.Protocols
import KsVerif.Proofs.Lemmas
import KsVerif.Generated.GenAtomicShapes

namespace KsVerif.Proofs.C19
open KsVerif.Sched

/-- Emit calls a task has begun. -/
def begun (n : Nat) (t : ETask) : Nat := n - t.rem
def ind (b : Bool) : Nat := if b then 1 else 0

/-- `matched` counts calls begun, `idx` those past reserving, `out` those sent; indices sent or held
    (pc = 2) are distinct and below `idx`. -/
structure Inv (na nb : Nat) (s : EState) : Prop where
  ra : s.a.rem ≤ na
  rb : s.b.rem ≤ nb
  pa : s.a.pc ≤ 2
  pb : s.b.pc ≤ 2
  ba : s.a.pc ≠ 0 → s.a.rem < na
  bb : s.b.pc ≠ 0 → s.b.rem < nb
  matched : s.matched = begun na s.a + begun nb s.b
  idx : s.idx + ind (s.a.pc = 1) + ind (s.b.pc = 1) = begun na s.a + begun nb s.b
  len : s.out.length + ind (s.a.pc ≠ 0) + ind (s.b.pc ≠ 0) = begun na s.a + begun nb s.b
  lt : ∀ v ∈ s.out, v < s.idx
  nodup : s.out.Nodup
  rega : s.a.pc = 2 → s.a.reg < s.idx ∧ s.a.reg ∉ s.out
  regb : s.b.pc = 2 → s.b.reg < s.idx ∧ s.b.reg ∉ s.out
  regab : s.a.pc = 2 → s.b.pc = 2 → s.a.reg ≠ s.b.reg

def swap (s : EState) : EState := { s with a := s.b, b := s.a }

theorem inv_swap {na nb : Nat} {s : EState} (h : Inv na nb s) : Inv nb na (swap s) :=
  { h with
    ra := h.rb, rb := h.ra, pa := h.pb, pb := h.pa, ba := h.bb, bb := h.ba
    matched := h.matched.trans (Nat.add_comm _ _)
    idx := (Nat.add_right_comm _ _ _).trans (h.idx.trans (Nat.add_comm _ _))
    len := (Nat.add_right_comm _ _ _).trans (h.len.trans (Nat.add_comm _ _))
    rega := h.regb, regb := h.rega, regab := fun ha hb => (h.regab hb ha).symm }

theorem estep_swap (s : EState) (w : Bool) : estep (swap s) w = swap (estep s (!w)) := by
  cases w <;> simp [estep, swap]

theorem begun_pred {n : Nat} {t : ETask} (hr : t.rem ≤ n) (h0 : t.rem ≠ 0) (p g : Nat) :
    begun n ⟨t.rem - 1, p, g⟩ = begun n t + 1 := by
  simp only [begun]; omega

theorem begun_mk (n : Nat) (t : ETask) (p g : Nat) : begun n ⟨t.rem, p, g⟩ = begun n t := rfl

theorem inv_step_a {na nb : Nat} {s : EState} (h : Inv na nb s) : Inv na nb (estep s true) := by
  -- `begun` stays folded: unfolded, every `n - rem` in the context doubles `omega`'s work
  simp only [estep, etaskStep, if_true]
  by_cases h0 : s.a.pc = 0
  · by_cases hr : s.a.rem = 0
    · rw [if_pos h0, if_pos hr]; exact h
    · -- begin a call
      rw [if_pos h0, if_neg hr]
      have hb := begun_pred h.ra hr 1 s.a.reg
      have hm := h.matched
      have hi := h.idx
      have hl := h.len
      simp [ind, h0] at hi hl
      exact { h with
        ra := Nat.le_trans (Nat.sub_le _ _) h.ra
        pa := by simp
        ba := fun _ => Nat.lt_of_lt_of_le (Nat.sub_one_lt hr) h.ra
        matched := by simp [hb]; omega
        idx := by simp [ind, hb]; omega
        len := by simp [ind, hb]; omega
        rega := by simp
        regab := by simp }
  · by_cases h1 : s.a.pc = 1
    · -- reserve: the index read is `s.idx`, above everything sent or held so far
      rw [if_neg h0, if_pos h1]
      exact { h with
        pa := by simp
        ba := fun _ => h.ba h0
        idx := by simpa [ind, h1, begun_mk] using h.idx
        len := by simpa [ind, h1, begun_mk] using h.len
        lt := fun v hv => Nat.lt_succ_of_lt (h.lt v hv)
        rega := fun _ => ⟨Nat.lt_succ_self _, fun hc => Nat.lt_irrefl _ (h.lt _ hc)⟩
        regb := fun hb => ⟨Nat.lt_succ_of_lt (h.regb hb).1, (h.regb hb).2⟩
        regab := fun _ hb => Nat.ne_of_gt (h.regb hb).1 }
    · -- send the index held
      have h2 : s.a.pc = 2 := by have := h.pa; omega
      rw [if_neg h0, if_neg h1]
      have ⟨hlt, hnew⟩ := h.rega h2
      exact { h with
        pa := by simp
        ba := by simp
        idx := by simpa [ind, h2, begun_mk] using h.idx
        len := by simpa [ind, h2, begun_mk] using h.len
        lt := fun v hv => (List.mem_append.mp hv).elim (h.lt v) fun hv => List.eq_of_mem_singleton hv ▸ hlt
        nodup := Lemmas.nodup_concat h.nodup hnew
        rega := by simp
        regb := fun hb => ⟨(h.regb hb).1, fun hc => (List.mem_append.mp hc).elim (h.regb hb).2 fun hc =>
          h.regab h2 hb (List.eq_of_mem_singleton hc).symm⟩
        regab := by simp }

theorem inv_step {na nb : Nat} {s : EState} (h : Inv na nb s) (w : Bool) : Inv na nb (estep s w) := by
  cases w
  · have := inv_swap (inv_step_a (inv_swap h))
    rw [estep_swap] at this
    simpa [swap] using this
  · exact inv_step_a h

def start (na nb : Nat) : EState := { a := { rem := na }, b := { rem := nb } }

theorem inv_start (na nb : Nat) : Inv na nb (start na nb) := by
  constructor <;> simp [start, begun, ind]

theorem inv_always (na nb : Nat) (sched : List Bool) : Inv na nb (erun (start na nb) sched) :=
  List.foldlRecOn (motive := Inv na nb) sched _ (inv_start na nb) fun _ h w _ => inv_step h w

/-- The two goroutines of a stream make `na` and `nb` Emit calls. Under every interleaving of their
    atomic steps, once both are done: `na + nb` items were sent, with pairwise distinct indices, and the
    matched-pairs statistic and the stream's item count each grew by `na + nb`. -/
theorem c19_emit_exact (na nb : Nat) (sched : List Bool)
    (hfin : (erun (start na nb) sched).finished) :
    let s := erun (start na nb) sched
    s.out.length = na + nb ∧ s.out.Nodup ∧ s.matched = na + nb ∧ s.idx = na + nb := by
  have h := inv_always na nb sched
  obtain ⟨h1, h2, h3, h4⟩ := hfin
  have hm := h.matched; have hi := h.idx; have hl := h.len
  simp only [begun, ind, h1, h2, h3, h4] at hm hi hl
  simp at hi hl
  exact ⟨by omega, h.nodup, by omega, by omega⟩

/-- At every moment (also mid-way) no two sent items share an index. -/
theorem c19_indices_distinct_always (na nb : Nat) (sched : List Bool) :
    (erun (start na nb) sched).out.Nodup :=
  (inv_always na nb sched).nodup

/-- The Emit the code performs today is the protocol above (regenerated shape). -/
theorem c19_emit_shape_atomic : isAtomicEmit Gen.Shapes.emit = true := by decide

/-- every counter update of AppStats in the tree (regenerated list) is one atomic add: no increment
    is lost between a load and a store -/
theorem c19_counter_updates_atomic : Gen.Shapes.statsCounterOps.all Sched.isAtomicCounterOp = true := by decide

/-- a complete interleaved run of 2 + 1 calls -/
example : (erun (start 2 1) [true, false, false, true, true, false, true, true, true]).finished ∧
    (erun (start 2 1) [true, false, false, true, true, false, true, true, true]).out = [1, 0, 2] := by
  unfold EState.finished; decide

end KsVerif.Proofs.C19
