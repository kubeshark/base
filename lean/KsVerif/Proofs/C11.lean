/-
  C11, the part a model carries: what the dissectors emit is what the later stages and `encoding/json` accept.
  Redis (first block): the later stages read the JSON shape the payload wrappers define; the shape is modelled
  (`Stages.redisShape`: the json tags of RedisPacket) with what `representGeneric` and `Summarize` demand of it,
  so their unchecked assertions cannot fail on an item the dissector emitted.
  AMQP (second block): whatever the reader model returns for a field, from any bytes and at any depth of arrays
  and tables, is a value a JSON document can carry: no NaN / ±Inf (json.Marshal rejects them), no timestamp
  outside the years 0 .. 9999 (Time.MarshalJSON rejects those).  Both were defects of the code; the repairs
  (9a83ac4 and the float counterpart) are what `clampTime` / `finite32` / `finite64` stand for.
  Partial: the other protocols are exercised on the real code (families stages.<proto>), and the timing of the
  stages is measured (cost families of C02).
-/
import KsVerif.Stages.Driver
import KsVerif.Proofs.AmqpRead

namespace KsVerif.Proofs.C11

section redis
open KsVerif KsVerif.Kfl KsVerif.Stages

/-- Every packet serialises to an object in which `type`, `command`, `key`, `value` and `keyword` are present
    and are strings: what `representGeneric` asserts (and `Summarize`, which also checks for nil). -/
theorem c11_redis_shape_meets_demands (p : Redis.Packet) : demandsHold redisDemands (redisShape p) = true :=
  rfl

/-- the shape has no other members: nothing the later stages do not expect -/
theorem c11_redis_shape_members (p : Redis.Packet) :
    ∃ kvs, redisShape p = .obj kvs ∧ kvs.map (·.1) = redisDemands := ⟨_, rfl, rfl⟩

/-- every packet the reader model hands over, for every input stream, meets the demands -/
theorem c11_redis_all_packets (bytes : Redis.Bytes) (tail : Redis.Tail) :
    ∀ p ∈ (Redis.dissectAll bytes tail).1, demandsHold redisDemands (redisShape p) = true :=
  fun p _ => c11_redis_shape_meets_demands p

end redis

section amqp
open KsVerif.Amqp KsVerif.Proofs.AmqpRead KsVerif.Proofs.Lemmas

def timeOk (t : Int) : Bool := decide (-62167219200 ≤ t) && decide (t ≤ 253402300799)

mutual
  /-- a field value that `encoding/json` can serialise -/
  def jsonOkF : FVal → Bool
    | .f32 n => finite32 n
    | .f64 n => finite64 n
    | .time t => timeOk t
    | .arr xs => jsonOkFs xs
    | .table kvs => jsonOkPairs kvs
    | _ => true
  def jsonOkFs : List FVal → Bool
    | [] => true
    | x :: xs => jsonOkF x && jsonOkFs xs
  def jsonOkPairs : List (Bytes × FVal) → Bool
    | [] => true
    | (_, v) :: rest => jsonOkF v && jsonOkPairs rest
end

theorem jsonOkFs_iff (xs : List FVal) : jsonOkFs xs = true ↔ ∀ x ∈ xs, jsonOkF x = true := by
  induction xs with
  | nil => simp [jsonOkFs]
  | cons x xs ih => simp [jsonOkFs, ih]

theorem jsonOkPairs_iff (kvs : List (Bytes × FVal)) : jsonOkPairs kvs = true ↔ ∀ kv ∈ kvs, jsonOkF kv.2 = true := by
  induction kvs with
  | nil => simp [jsonOkPairs]
  | cons kv kvs ih => obtain ⟨k, v⟩ := kv; simp [jsonOkPairs, ih]

theorem scalar_json_ok (v : FVal) (h : Scalar v) : jsonOkF v = true := by
  cases v with
  | f32 _ | f64 _ => exact h
  | time t => simp only [jsonOkF, timeOk, decide_eq_true h.1, decide_eq_true h.2, Bool.and_self]
  | arr _ | table _ => exact h.elim
  | _ => rfl

/-- **every field value the AMQP reader returns, on any input, can be serialised** -/
theorem c11_amqp_field_serialisable (fuel : Nat) (st st' : St) (v : FVal)
    (h : readField fuel st = .ok (v, st')) : jsonOkF v = true :=
  (((fields_reads (V := fun v => jsonOkF v = true) scalar_json_ok
    (fun xs h => (jsonOkFs_iff xs).mpr h) (fun kvs h => (jsonOkPairs_iff kvs).mpr h) fuel).1 st).ok h).2

/-- non-vacuity: the bytes `d` + NaN are read (as no value), `T` + a far-future second count too -/
example : jsonOkF (.arr [.f32 0, .time 5, .table [([1], .f64 0)]]) = true := by decide

end amqp

end KsVerif.Proofs.C11
