/-
  C17 - one pass of the model of ExpandMacros (`expandOne`) taken alone: what a match is, the two
  steps of a pass, quote parity, and what a pass does on an identifier, a string literal and any
  other character.  The token-level spec and all passes together: `Proofs/C17Spec.lean`.
-/
import KsVerif.Kfl.Macro
import KsVerif.Proofs.Lemmas

namespace KsVerif.Proofs.C17
open KsVerif.Kfl.Macro

theorem exists_run {α : Type} (p : α → Bool) (s : List α) :
    ∃ a r, s = a ++ r ∧ a.all p = true ∧ ∀ x, r.head? = some x → p x = false :=
  ⟨s.takeWhile p, s.dropWhile p, List.takeWhile_append_dropWhile.symm, List.all_takeWhile,
    fun x hx => by have := List.head?_dropWhile_not p s; rw [hx] at this; simpa using this⟩

theorem run_unique {α : Type} (p : α → Bool) (a b r r' : List α) (ha : a.all p = true)
    (hb : b.all p = true) (hr : ∀ x, r.head? = some x → p x = false)
    (hr' : ∀ x, r'.head? = some x → p x = false) (h : a ++ r = b ++ r') : a = b := by
  rw [← (Lemmas.span_run ha hr).1, h, (Lemmas.span_run hb hr').1]

theorem isWord_isWordDot {c : Char} (h : isWord c = true) : isWordDot c = true := by
  simp [isWordDot, h]

theorem quote_not_wordDot : isWordDot '"' = false := by decide

theorem all_isWordDot {name : List Char} (h : name.all isWord = true) : name.all isWordDot = true :=
  List.all_eq_true.mpr fun x hx => isWord_isWordDot (List.all_eq_true.mp h x hx)

theorem not_mem_of_wordDot {w : List Char} (h : w.all isWordDot = true) {c : Char}
    (hc : isWordDot c = false) : c ∉ w := fun hm => by
  simpa [hc] using List.all_eq_true.mp h c hm

theorem quoteCount_eq_count (s : List Char) : quoteCount s = s.count '"' := by
  simp [quoteCount, List.count, List.countP_eq_length_filter]

theorem quoteCount_append (a b : List Char) : quoteCount (a ++ b) = quoteCount a + quoteCount b := by
  simp only [quoteCount_eq_count, List.count_append]

theorem quoteCount_cons (c : Char) (s : List Char) :
    quoteCount (c :: s) = (if c == '"' then 1 else 0) + quoteCount s := by
  rw [quoteCount_eq_count, quoteCount_eq_count, List.count_cons, Nat.add_comm]

theorem quoteCount_eq_zero {s : List Char} : quoteCount s = 0 ↔ '"' ∉ s := by
  rw [quoteCount_eq_count, List.count_eq_zero]

theorem evenQuotes_iff {s : List Char} : evenQuotes s = true ↔ quoteCount s % 2 = 0 := by
  rw [evenQuotes, beq_iff_eq]

theorem quoteCount_of_wordDot (w : List Char) (h : w.all isWordDot = true) : quoteCount w = 0 :=
  quoteCount_eq_zero.mpr (not_mem_of_wordDot h quote_not_wordDot)

theorem closedAfter_cons (inLit : Bool) (c : Char) (r : List Char) (hc : c ≠ '\\') :
    closedAfter inLit (c :: r) = if (c == '"') = true then closedAfter (!inLit) r else closedAfter inLit r :=
  closedAfter.eq_4 inLit c r (fun _ _ h _ => hc h) (fun h _ => hc h)

theorem closedAfter_noBackslash : ∀ (s : List Char) (inLit : Bool), '\\' ∉ s →
    closedAfter inLit s = (quoteCount s % 2 == (if inLit then 1 else 0)) := by
  intro s
  induction s with
  | nil => intro inLit _; cases inLit <;> rfl
  | cons c r ih =>
    intro inLit hb
    rw [List.mem_cons, not_or] at hb
    rw [closedAfter_cons inLit c r (Ne.symm hb.1), quoteCount_cons]
    split
    · -- a quote: the state flips, and so does the parity asked of the rest
      rw [ih _ hb.2, Nat.add_mod]
      rcases Nat.mod_two_eq_zero_or_one (quoteCount r) with h | h <;> rw [h] <;> cases inLit <;> rfl
    · rw [ih _ hb.2, Nat.zero_add]

theorem closedAfter_even (s : List Char) (hb : '\\' ∉ s) : closedAfter false s = evenQuotes s := by
  rw [closedAfter_noBackslash s false hb]
  simp [evenQuotes]

/-- the previous character after consuming `l` -/
def lastOr (prev : Option Char) (l : List Char) : Option Char :=
  match l.getLast? with
  | some c => some c
  | none => prev

@[simp] theorem lastOr_nil (p : Option Char) : lastOr p [] = p := rfl

theorem lastOr_cons (p : Option Char) (c : Char) (l : List Char) :
    lastOr p (c :: l) = lastOr (some c) l := by
  simp only [lastOr, List.getLast?_cons]
  cases l.getLast? <;> rfl

theorem isPrefixOf_iff (p s : List Char) : isPrefixOf p s = true ↔ ∃ r, s = p ++ r := by
  rw [isPrefixOf, beq_iff_eq, eq_comm, ← List.prefix_iff_eq_take]
  exact exists_congr fun _ => eq_comm

/-- what `(?<![\w.])name(?![\w.])(?=…$)` matches at the head of `s` -/
theorem matchesAt_iff (name : List Char) (prev : Option Char) (s : List Char) :
    matchesAt name prev s = true ↔ ∃ r, s = name ++ r ∧
      (∀ p, prev = some p → isWordDot p = false) ∧
      (∀ x, r.head? = some x → isWordDot x = false) ∧ closedAfter false r = true := by
  simp only [matchesAt, Bool.and_eq_true, isPrefixOf_iff]
  constructor
  · rintro ⟨⟨⟨⟨r, rfl⟩, hp⟩, hx⟩, hc⟩
    rw [List.drop_left] at hx hc
    refine ⟨r, rfl, ?_, ?_, hc⟩
    · intro p hp'
      subst hp'
      simpa using hp
    · intro x hx'
      rw [hx'] at hx
      simpa using hx
  · rintro ⟨r, rfl, hp, hx, hc⟩
    rw [List.drop_left]
    refine ⟨⟨⟨⟨r, rfl⟩, ?_⟩, ?_⟩, hc⟩
    · cases prev with
      | none => rfl
      | some p => simp [hp p rfl]
    · cases h : r.head? with
      | none => rfl
      | some x => simp [hx x h]

theorem aux_nil (name exp : List Char) (prev : Option Char) (k : Nat) :
    expandOneAux name exp prev k [] = [] := by
  cases k <;> simp [expandOneAux]

theorem aux_skip (name exp : List Char) :
    ∀ (a : List Char) (prev : Option Char) (r : List Char),
      expandOneAux name exp prev a.length (a ++ r) = expandOneAux name exp (lastOr prev a) 0 r := by
  intro a
  induction a with
  | nil => intro prev r; simp
  | cons c cs ih =>
    intro prev r
    simp only [List.length_cons, List.cons_append, expandOneAux]
    rw [ih, lastOr_cons]

/-- `expandOneAux` is not unfolded after this and `aux_copy` -/
theorem aux_match (name exp : List Char) (hne : name ≠ []) (prev : Option Char) (r : List Char)
    (h : matchesAt name prev (name ++ r) = true) :
    expandOneAux name exp prev 0 (name ++ r)
      = exp ++ expandOneAux name exp (lastOr prev name) 0 r := by
  cases name with
  | nil => exact absurd rfl hne
  | cons c cs =>
    rw [List.cons_append] at h ⊢
    rw [expandOneAux, if_pos ⟨hne, h⟩, List.length_cons, Nat.add_sub_cancel, aux_skip, lastOr_cons]

/-- the hypothesis comes with `name ≠ []`: callers need not know it -/
theorem aux_copy (name exp : List Char) (prev : Option Char) (c : Char) (rest : List Char)
    (h : name ≠ [] → matchesAt name prev (c :: rest) = false) :
    expandOneAux name exp prev 0 (c :: rest) = c :: expandOneAux name exp (some c) 0 rest := by
  rw [expandOneAux, if_neg]
  intro ⟨h1, h2⟩
  simp [h h1] at h2

theorem expandOneAux_quote_parity (name exp : List Char) (hn : quoteCount name = 0)
    (he : quoteCount exp % 2 = 0) :
    ∀ (s : List Char) (prev : Option Char),
      quoteCount (expandOneAux name exp prev 0 s) % 2 = quoteCount s % 2
  | [], prev => by rw [aux_nil]
  | c :: rest, prev => by
    by_cases hm : name ≠ [] ∧ matchesAt name prev (c :: rest) = true
    · obtain ⟨r, hs, -⟩ := (matchesAt_iff name prev _).mp hm.2
      have hl : r.length < (c :: rest).length := by
        have h2 := List.length_pos_iff.mpr hm.1
        rw [hs, List.length_append]
        omega
      rw [hs] at hm ⊢
      rw [aux_match _ _ hm.1 _ _ hm.2, quoteCount_append, quoteCount_append, hn, Nat.add_mod, he,
        expandOneAux_quote_parity name exp hn he r]
      simp
    · rw [aux_copy _ _ _ _ _ (fun hne => by simpa [hne] using hm), quoteCount_cons, quoteCount_cons,
        Nat.add_mod, expandOneAux_quote_parity name exp hn he rest, ← Nat.add_mod]
termination_by s => s.length
decreasing_by
  · exact hl
  · exact Nat.lt_succ_self _

/-- A pass keeps the parity of the quotes when the name holds none and the definition an even
    number: what follows an expansion stays inside or outside a literal as it was. -/
theorem expandOne_quote_parity (name exp q : List Char) (hn : quoteCount name = 0)
    (he : quoteCount exp % 2 = 0) :
    quoteCount (expandOne name exp q) % 2 = quoteCount q % 2 :=
  expandOneAux_quote_parity name exp hn he q none

/-- a pass over a text in which the name matches nowhere changes nothing -/
theorem expandOneAux_id_of_no_match (name exp : List Char) :
    ∀ (s : List Char) (prev : Option Char),
      (∀ (pre : List Char) (c : Char) (post : List Char) (p : Option Char),
          s = pre ++ c :: post → p = (if pre = [] then prev else pre.getLast?) →
          matchesAt name p (c :: post) = false) →
      expandOneAux name exp prev 0 s = s := by
  intro s
  induction s with
  | nil => intro prev _; rw [aux_nil]
  | cons c rest ih =>
    intro prev h
    rw [aux_copy _ _ _ _ _ (fun _ => h [] c rest prev rfl rfl), ih (some c)]
    intro pre d post p hs hp
    apply h (c :: pre) d post p (by rw [hs]; rfl)
    cases pre <;> simpa [List.getLast?_cons_cons] using hp

theorem aux_word_tail (name exp : List Char) :
    ∀ (w : List Char) (p : Char) (r : List Char), isWordDot p = true → w.all isWordDot = true →
      expandOneAux name exp (some p) 0 (w ++ r) = w ++ expandOneAux name exp (lastOr (some p) w) 0 r := by
  intro w
  induction w with
  | nil => intro p r _ _; simp
  | cons c cs ih =>
    intro p r hp hw
    simp only [List.all_cons, Bool.and_eq_true] at hw
    rw [List.cons_append, aux_copy _ _ _ _ _ (fun _ => by simp [matchesAt, hp]), ih c r hw.1 hw.2, lastOr_cons]
    rfl

/-- inside an identifier the name can match only when the identifier IS the name -/
theorem match_word (name w r : List Char) (prev : Option Char) (hn : name.all isWord = true)
    (hw : w.all isWordDot = true) (hr : ∀ x, r.head? = some x → isWordDot x = false)
    (h : matchesAt name prev (w ++ r) = true) : name = w := by
  obtain ⟨r', hs, -, hr', -⟩ := (matchesAt_iff _ _ _).mp h
  exact run_unique isWordDot name w r' r (all_isWordDot hn) hw hr' hr hs.symm

/-- the same of the two conjuncts of `matchesAt` it rests on, as the model spells them -/
theorem match_word_iff :
    ∀ (name w r : List Char), name.all isWord = true → w.all isWordDot = true →
      (∀ x, r.head? = some x → isWordDot x = false) →
      isPrefixOf name (w ++ r) = true →
      (∀ x, ((w ++ r).drop name.length).head? = some x → isWordDot x = false) →
      name = w := by
  intro name w r hn hw hr hp hnext
  obtain ⟨r', hs⟩ := (isPrefixOf_iff name _).mp hp
  rw [hs, List.drop_left] at hnext
  exact run_unique isWordDot name w r' r (all_isWordDot hn) hw hnext hr hs.symm

/-- an identifier is replaced when it is the name, copied otherwise -/
theorem aux_word (name exp : List Char) (hn : name.all isWord = true) (hne : name ≠ [])
    (prev : Option Char) (w r : List Char)
    (hprev : ∀ p, prev = some p → isWordDot p = false)
    (hw : w.all isWordDot = true) (hwne : w ≠ [])
    (hr : ∀ x, r.head? = some x → isWordDot x = false)
    (heven : evenQuotes r = true) (hbr : '\\' ∉ r) :
    expandOneAux name exp prev 0 (w ++ r)
      = (if name = w then exp else w) ++ expandOneAux name exp (lastOr prev w) 0 r := by
  by_cases heq : name = w
  · subst heq
    rw [if_pos rfl, aux_match _ _ hne _ _
      ((matchesAt_iff _ _ _).mpr ⟨r, rfl, hprev, hr, by rw [closedAfter_even r hbr]; exact heven⟩)]
  · -- no match at the start of the identifier (it would be the name), none inside
    have hm : matchesAt name prev (w ++ r) = false :=
      Bool.eq_false_iff.mpr fun hmm => heq (match_word name w r prev hn hw hr hmm)
    cases w with
    | nil => exact absurd rfl hwne
    | cons c cs =>
      simp only [List.all_cons, Bool.and_eq_true] at hw
      rw [List.cons_append] at hm ⊢
      rw [if_neg heq, aux_copy _ _ _ _ _ (fun _ => hm),
        aux_word_tail name exp cs c r hw.1 hw.2, lastOr_cons]
      rfl

/-- inside a string literal the quotes ahead are odd in number, so the look-ahead fails -/
theorem aux_in_literal (name exp : List Char) (hn : quoteCount name = 0) :
    ∀ (body : List Char) (prev : Option Char) (tail : List Char),
      quoteCount body = 0 → quoteCount tail % 2 = 1 → '\\' ∉ body ++ tail →
      expandOneAux name exp prev 0 (body ++ tail) = body ++ expandOneAux name exp (lastOr prev body) 0 tail := by
  intro body
  induction body with
  | nil => intro prev tail _ _ _; simp
  | cons c cs ih =>
    intro prev tail hb ht hbs
    have hcs : quoteCount cs = 0 :=
      quoteCount_eq_zero.mpr fun h => quoteCount_eq_zero.mp hb (List.mem_cons_of_mem _ h)
    have hm : matchesAt name prev (c :: cs ++ tail) = false := Bool.eq_false_iff.mpr fun hmm => by
      obtain ⟨r, hs, -, -, hev⟩ := (matchesAt_iff _ _ _).mp hmm
      rw [closedAfter_even r (fun h => hbs (by rw [hs]; simp [h]))] at hev
      have h1 := congrArg quoteCount hs
      rw [quoteCount_append, quoteCount_append, hb, hn] at h1
      rw [evenQuotes_iff] at hev
      omega
    rw [List.cons_append] at hm ⊢
    rw [aux_copy _ _ _ _ _ (fun _ => hm),
      ih (some c) tail hcs ht (fun h => hbs (List.mem_cons_of_mem _ h)), lastOr_cons]
    rfl

theorem no_match_of_not_word (name : List Char) (hn : name.all isWord = true) (hne : name ≠ [])
    (prev : Option Char) (c : Char) (rest : List Char) (hc : isWordDot c = false) :
    matchesAt name prev (c :: rest) = false := Bool.eq_false_iff.mpr fun h => by
  obtain ⟨r, hs, -⟩ := (matchesAt_iff _ _ _).mp h
  cases name with
  | nil => exact hne rfl
  | cons n ns =>
    simp only [List.all_cons, Bool.and_eq_true] at hn
    rw [List.cons_append, List.cons.injEq] at hs
    rw [hs.1, isWord_isWordDot hn.1] at hc
    exact absurd hc (by simp)

theorem aux_other (name exp : List Char) (hn : name.all isWord = true) (hne : name ≠ [])
    (prev : Option Char) (c : Char) (rest : List Char) (hc : isWordDot c = false) :
    expandOneAux name exp prev 0 (c :: rest) = c :: expandOneAux name exp (some c) 0 rest :=
  aux_copy _ _ _ _ _ fun _ => no_match_of_not_word name hn hne prev c rest hc

/-- a string literal is copied byte for byte -/
theorem aux_literal (name exp : List Char) (hn : name.all isWord = true) (hne : name ≠ [])
    (prev : Option Char) (body r : List Char) (hb : quoteCount body = 0) (heven : evenQuotes r = true)
    (hbb : '\\' ∉ body) (hbr : '\\' ∉ r) :
    expandOneAux name exp prev 0 ('"' :: (body ++ '"' :: r))
      = '"' :: (body ++ '"' :: expandOneAux name exp (some '"') 0 r) := by
  rw [evenQuotes_iff] at heven
  rw [aux_other name exp hn hne prev '"' _ quote_not_wordDot,
    aux_in_literal name exp (quoteCount_of_wordDot name (all_isWordDot hn)) body (some '"') ('"' :: r) hb
      (by rw [quoteCount_cons, Nat.add_mod, heven]; rfl)
      (by simp only [List.mem_append, List.mem_cons, not_or]; exact ⟨hbb, by decide, hbr⟩),
    aux_other name exp hn hne _ '"' _ quote_not_wordDot]

/-- Non-vacuity / regression: the identifier that used to be rewritten is left alone, the
    standalone name is expanded, the literal is preserved. -/
example : expand "request.httpVersion == \"http\" and http"
    = "request.httpVersion == \"http\" and (protocol.abbr == \"HTTP\")" := by decide +kernel

end KsVerif.Proofs.C17
