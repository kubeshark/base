/-
  C05: AMQP 0-9-1 methods and content are reported exactly.  A frame of the reference encoder
  (Amqp/Spec.lean) is read back by the model as exactly that method with exactly those named values, for
  every conforming value and whatever follows it.  The model's argument decoders are driven by
  `Gen.Amqp.methods`, re-translated from spec091.go on every run.  Partial: content headers (`readProps`)
  and the assembly of a content across frames are checked on every generated case, not proved.
-/
import KsVerif.Amqp.Spec
import KsVerif.Proofs.AmqpRead

namespace KsVerif.Proofs.C05
open KsVerif.Amqp KsVerif.Amqp.Spec KsVerif.Proofs.C02Amqp
open KsVerif.Proofs.AmqpRead (clampTime_eq readFrame_eq frameRest)

theorem be_length (n v : Nat) : (be n v).length = n := Lemmas.be_length n v

theorem beNat_be (n v : Nat) : beNat (be n v) = v % 256 ^ n := Lemmas.beNat_be n v

theorem readFull_exact (bs rest : Bytes) (tail : Tail) :
    readFull bs.length { rem := bs ++ rest, tail } = .ok (bs, { rem := rest, tail }) := by
  unfold readFull
  by_cases h : bs.length = 0
  · have : bs = [] := List.length_eq_zero_iff.mp h
    subst this; simp
  · simp [h]

/-- A declared length that the stream cannot satisfy ends with the stream's own end; nothing is fabricated. -/
theorem readFull_short (n : Nat) (st : St) (h : st.rem.length < n) :
    ∃ f, readFull n st = .error f ∧ f.st.rem = [] ∧ f.err.isPanic = false := by
  unfold readFull
  have hn : n ≠ 0 := by omega
  have hge : ¬ st.rem.length ≥ n := by omega
  simp only [hn, if_false, hge]
  cases st.tail with
  | err => exact ⟨_, rfl, rfl, rfl⟩
  | eof =>
    simp only
    split <;> exact ⟨_, rfl, rfl, rfl⟩

theorem readUInt_be (n v : Nat) (hv : v < 256 ^ n) (rest : Bytes) (tail : Tail) :
    readUInt n { rem := be n v ++ rest, tail } = .ok (v, { rem := rest, tail }) := by
  unfold readUInt
  have := readFull_exact (be n v) rest tail
  rw [be_length] at this
  rw [this]
  simp [beNat_be, Nat.mod_eq_of_lt hv]

theorem readUInt_one (b : UInt8) (rest : Bytes) (tail : Tail) :
    readUInt 1 { rem := b :: rest, tail } = .ok (b.toNat, { rem := rest, tail }) := by
  simp [readUInt, readFull, beNat]

theorem be_one (n : Nat) : be 1 n = [UInt8.ofNat n] := by
  simp [be]
  apply UInt8.toNat_inj.mp
  simp

/-- the encoder's form of a short string (`encPairs`, `encArg`) -/
theorem readShortStr_cons (s rest : Bytes) (tail : Tail) (hs : s.length < 256) :
    readShortStr { rem := UInt8.ofNat s.length :: (s ++ rest), tail } = .ok (s, { rem := rest, tail }) := by
  unfold readShortStr
  rw [readUInt_one, UInt8.toNat_ofNat', Nat.mod_eq_of_lt hs]
  exact readFull_exact s rest tail

theorem readShortStr_exact (s rest : Bytes) (tail : Tail) (hs : s.length < 256) :
    readShortStr { rem := be 1 s.length ++ s ++ rest, tail } = .ok (s, { rem := rest, tail }) := by
  rw [be_one]
  exact readShortStr_cons s rest tail hs

/-- the form the encoders' terms normalise to -/
theorem readLongStr_assoc (s rest : Bytes) (tail : Tail) (hs : s.length ≤ 2147483647) :
    readLongStr { rem := be 4 s.length ++ (s ++ rest), tail } = .ok (s, { rem := rest, tail }) := by
  unfold readLongStr
  rw [readUInt_be 4 s.length (by omega) (s ++ rest) tail]
  dsimp only
  rw [if_neg (by omega)]
  exact readFull_exact s rest tail

theorem readLongStr_exact (s rest : Bytes) (tail : Tail) (hs : s.length ≤ 2147483647) :
    readLongStr { rem := be 4 s.length ++ s ++ rest, tail } = .ok (s, { rem := rest, tail }) := by
  rw [List.append_assoc]
  exact readLongStr_assoc s rest tail hs

/-- Non-vacuity: a 255-byte short string followed by more data. -/
example : readShortStr { rem := be 1 3 ++ [1, 2, 3] ++ [9], tail := .eof } = .ok ([1, 2, 3], { rem := [9], tail := .eof }) :=
  readShortStr_exact [1, 2, 3] [9] .eof (by decide)

theorem toSigned_twos {k : Nat} (hk : 0 < k) {v : Int}
    (hv : -(2 ^ (8 * k - 1) : Nat) ≤ v ∧ v < (2 ^ (8 * k - 1) : Nat)) :
    (if v < 0 then (v + (2 : Int) ^ (8 * k)).toNat else v.toNat) < 256 ^ k ∧
      toSigned k (if v < 0 then (v + (2 : Int) ^ (8 * k)).toNat else v.toNat) = v := by
  obtain ⟨h, hh⟩ : ∃ h, 8 * k = h + 1 := ⟨8 * k - 1, by omega⟩
  have h2 : (2 : Int) ^ (8 * k) = ((2 ^ h * 2 : Nat) : Int) := by rw [hh, ← Nat.pow_succ, Int.natCast_pow]; rfl
  rw [show 256 ^ k = 2 ^ (8 * k) from (Nat.pow_mul 2 8 k).symm, h2]
  unfold toSigned
  rw [hh, Nat.add_sub_cancel] at hv
  rw [h2, hh, Nat.add_sub_cancel, Nat.pow_succ]
  generalize 2 ^ h = m at *
  by_cases hneg : v < 0
  · rw [if_pos hneg]
    exact ⟨by omega, by rw [if_pos (by omega)]; omega⟩
  · rw [if_neg hneg]
    exact ⟨by omega, by rw [if_neg (by omega)]; omega⟩

theorem readUInt_beInt (k : Nat) (hk : k = 2 ∨ k = 4 ∨ k = 8) (v : Int)
    (hv : -(2 ^ (8 * k - 1) : Nat) ≤ v ∧ v < (2 ^ (8 * k - 1) : Nat)) (rest : Bytes) (tail : Tail) :
    ∃ u, readUInt k { rem := beInt k v ++ rest, tail } = .ok (u, { rem := rest, tail }) ∧ toSigned k u = v :=
  have ⟨hlt, hs⟩ := toSigned_twos (k := k) (by omega) hv
  ⟨_, readUInt_be k _ hlt rest tail, hs⟩

theorem readFull_eof_empty (k : Nat) (hk : k ≠ 0) :
    readFull k { rem := [], tail := .eof } = fail .eof { rem := [], tail := .eof } := by
  simp [readFull, hk, fail]

def i16ok (n : Int) : Bool := -32768 ≤ n && n ≤ 32767
def i32ok (n : Int) : Bool := -2147483648 ≤ n && n ≤ 2147483647
def i64ok (n : Int) : Bool := -9223372036854775808 ≤ n && n ≤ 9223372036854775807

/-- the years 0 .. 9999, what a JSON document can carry; others are reported as the zero time -/
def timeok (n : Int) : Bool := -62167219200 ≤ n && n ≤ 253402300799

mutual
  /-- integers within their width, lengths that fit their prefix and stay below 2³¹, beyond which the reader
      gives up -/
  def confF : FVal → Bool
    | .bool _ => true
    | .byte n => decide (n < 256)
    | .i16 n => i16ok n
    | .i32 n => i32ok n
    | .i64 n => i64ok n
    | .f32 n => decide (n < 4294967296) && finite32 n
    | .f64 n => decide (n < 18446744073709551616) && finite64 n
    | .decimal s v => decide (s < 256) && i32ok v
    | .str s => decide (s.length ≤ 2147483647)
    | .arr xs => confFs xs && decide ((encFVals xs).length < 4294967296)
    | .time t => timeok t
    | .table kvs => confPairs kvs && decide ((encPairs kvs).length ≤ 2147483647)
    | .nil => true
    | .bytes b => decide (b.length ≤ 2147483647)
  def confFs : List FVal → Bool
    | [] => true
    | x :: xs => confF x && confFs xs
  def confPairs : List (Bytes × FVal) → Bool
    | [] => true
    | (k, v) :: rest => decide (k.length < 256) && confF v && confPairs rest
end

mutual
  /-- fuel that suffices to read a value back: one unit per call on the deepest path.  A table costs 2
      (`readField` calls `readTable` calls `readPairs`); the empty array needs 2, because the loop of
      `readArrayItems` ends on a `readField` that must get far enough to fail with io.EOF. -/
  def needF : FVal → Nat
    | .arr xs => 1 + needFs xs
    | .table kvs => 2 + needPairs kvs
    | _ => 1
  def needFs : List FVal → Nat
    | [] => 2
    | x :: xs => 1 + max (needF x) (needFs xs)
  def needPairs : List (Bytes × FVal) → Nat
    | [] => 1
    | (_, v) :: rest => 1 + max (needF v) (needPairs rest)
end

theorem readTable_of_pairs (kvs : List (Bytes × FVal)) (hl : (encPairs kvs).length ≤ 2147483647) (f : Nat)
    (hp : readPairs f { rem := encPairs kvs, tail := .eof } = .ok kvs) (rest : Bytes) (tail : Tail) :
    readTable (f + 1) { rem := encTable kvs ++ rest, tail } = .ok (kvs, { rem := rest, tail }) := by
  simp [readTable, encTable, readLongStr_assoc (encPairs kvs) rest tail hl, hp]

theorem needF_pos (v : FVal) : 0 < needF v := by cases v <;> simp only [needF] <;> omega
theorem needFs_pos (xs : List FVal) : 0 < needFs xs := by cases xs <;> simp only [needFs] <;> omega
theorem needPairs_pos (kvs : List (Bytes × FVal)) : 0 < needPairs kvs := by
  rcases kvs with _ | ⟨⟨_, _⟩, _⟩ <;> simp only [needPairs] <;> omega

mutual
  /-- **Field values round-trip**: all 14 field types, any nesting, any bytes, whatever follows. -/
  theorem c05_field_enc : ∀ (v : FVal), confF v = true → ∀ (fuel : Nat), needF v ≤ fuel → ∀ (rest : Bytes) (tail : Tail),
      readField fuel { rem := encFVal v ++ rest, tail } = .ok (v, { rem := rest, tail })
    | v, _, 0, hf, _, _ => absurd hf (Nat.not_le.mpr (needF_pos v))
    | .bool b, _, f + 1, _, rest, tail => by
      cases b <;> simp [readField, encFVal, readUInt_one]
    | .byte n, hc, f + 1, _, rest, tail => by
      simp only [confF, decide_eq_true_eq] at hc
      simp [readField, encFVal, readUInt_one, Nat.mod_eq_of_lt hc]
    | .i16 n, hc, f + 1, _, rest, tail => by
      simp only [confF, i16ok, Bool.and_eq_true, decide_eq_true_eq] at hc
      obtain ⟨u, hu, hs⟩ := readUInt_beInt 2 (.inl rfl) n (by omega) rest tail
      simp [readField, encFVal, readUInt_one, hu, hs]
    | .i32 n, hc, f + 1, _, rest, tail => by
      simp only [confF, i32ok, Bool.and_eq_true, decide_eq_true_eq] at hc
      obtain ⟨u, hu, hs⟩ := readUInt_beInt 4 (.inr (.inl rfl)) n (by omega) rest tail
      simp [readField, encFVal, readUInt_one, hu, hs]
    | .i64 n, hc, f + 1, _, rest, tail => by
      simp only [confF, i64ok, Bool.and_eq_true, decide_eq_true_eq] at hc
      obtain ⟨u, hu, hs⟩ := readUInt_beInt 8 (.inr (.inr rfl)) n (by omega) rest tail
      simp [readField, encFVal, readUInt_one, hu, hs]
    | .f32 n, hc, f + 1, _, rest, tail => by
      simp only [confF, Bool.and_eq_true, decide_eq_true_eq] at hc
      have hu := readUInt_be 4 n (by omega) rest tail
      simp [readField, encFVal, readUInt_one, hu, hc.2]
    | .f64 n, hc, f + 1, _, rest, tail => by
      simp only [confF, Bool.and_eq_true, decide_eq_true_eq] at hc
      have hu := readUInt_be 8 n (by omega) rest tail
      simp [readField, encFVal, readUInt_one, hu, hc.2]
    | .decimal sc v, hc, f + 1, _, rest, tail => by
      simp only [confF, i32ok, Bool.and_eq_true, decide_eq_true_eq] at hc
      obtain ⟨u, hu, hs⟩ := readUInt_beInt 4 (.inr (.inl rfl)) v (by omega) rest tail
      simp [readField, encFVal, readUInt_one, hu, hs, Nat.mod_eq_of_lt hc.1]
    | .str s, hc, f + 1, _, rest, tail => by
      simp only [confF, decide_eq_true_eq] at hc
      simp [readField, encFVal, readUInt_one, readLongStr_assoc s rest tail hc]
    | .arr xs, hc, f + 1, hf, rest, tail => by
      simp only [confF, Bool.and_eq_true, decide_eq_true_eq] at hc
      have hu := readUInt_be 4 (encFVals xs).length (by omega) (encFVals xs ++ rest) tail
      have hi := c05_items_enc xs hc.1 f (by simp only [needF] at hf; omega)
      simp [readField, encFVal, readUInt_one, hu, hi]
    | .time t, hc, f + 1, _, rest, tail => by
      simp only [confF, timeok, Bool.and_eq_true, decide_eq_true_eq] at hc
      have hck := clampTime_eq hc
      obtain ⟨u, hu, hs⟩ := readUInt_beInt 8 (.inr (.inr rfl)) t (by omega) rest tail
      simp [readField, encFVal, readUInt_one, hu, hs, hck]
    | .table kvs, hc, f + 1, hf, rest, tail => by
      obtain ⟨g, rfl⟩ : ∃ g, f = g + 1 := ⟨f - 1, by have := needPairs_pos kvs; simp only [needF] at hf; omega⟩
      simp only [confF, Bool.and_eq_true, decide_eq_true_eq] at hc
      have hp := c05_pairs_enc kvs hc.1 g (by simp only [needF] at hf; omega)
      simp [readField, encFVal, readUInt_one, readTable_of_pairs kvs hc.2 g hp]
    | .nil, _, f + 1, _, rest, tail => by
      simp [readField, encFVal, readUInt_one]
    | .bytes b, hc, f + 1, _, rest, tail => by
      simp only [confF, decide_eq_true_eq] at hc
      have hu := readUInt_be 4 b.length (by omega) (b ++ rest) tail
      have hfull := readFull_exact b rest tail
      have hs : toSigned 4 b.length = (b.length : Int) := by unfold toSigned; rw [if_neg (by omega)]
      have hnn : ¬ (b.length : Int) < 0 := by omega
      simp [readField, encFVal, readUInt_one, hu, hs, hnn, readBytesN, hfull]
  theorem c05_items_enc : ∀ (xs : List FVal), confFs xs = true → ∀ (fuel : Nat), needFs xs ≤ fuel →
      readArrayItems fuel { rem := encFVals xs, tail := .eof } = .ok (xs, { rem := [], tail := .eof })
    | xs, _, 0, hf => absurd hf (Nat.not_le.mpr (needFs_pos xs))
    | [], _, 1, hf => by simp [needFs] at hf
    | [], _, g + 2, _ => by simp [readArrayItems, readField, encFVals, readUInt, readFull_eof_empty, fail]
    | x :: xs, hc, f + 1, hf => by
      simp only [confFs, Bool.and_eq_true] at hc
      simp only [needFs] at hf
      have h1 := c05_field_enc x hc.1 f (by omega) (encFVals xs) .eof
      have h2 := c05_items_enc xs hc.2 f (by omega)
      simp [readArrayItems, encFVals, h1, h2]
  theorem c05_pairs_enc : ∀ (kvs : List (Bytes × FVal)), confPairs kvs = true → ∀ (fuel : Nat), needPairs kvs ≤ fuel →
      readPairs fuel { rem := encPairs kvs, tail := .eof } = .ok kvs
    | kvs, _, 0, hf => absurd hf (Nat.not_le.mpr (needPairs_pos kvs))
    | [], _, f + 1, _ => by simp [readPairs, encPairs]
    | (k, v) :: rest, hc, f + 1, hf => by
      simp only [confPairs, Bool.and_eq_true, decide_eq_true_eq] at hc
      simp only [needPairs] at hf
      have hk := readShortStr_cons k (encFVal v ++ encPairs rest) .eof hc.1.1
      have h1 := c05_field_enc v hc.1.2 f (by omega) (encPairs rest) .eof
      have h2 := c05_pairs_enc rest hc.2 f (by omega)
      simp [readPairs, encPairs, hk, h1, h2]
end

theorem c05_table_enc (kvs : List (Bytes × FVal)) (hc : confPairs kvs = true) (hl : (encPairs kvs).length ≤ 2147483647)
    (fuel : Nat) (hf : 1 + needPairs kvs ≤ fuel) (rest : Bytes) (tail : Tail) :
    readTable fuel { rem := encTable kvs ++ rest, tail } = .ok (kvs, { rem := rest, tail }) := by
  cases fuel with
  | zero => omega
  | succ f => exact readTable_of_pairs kvs hl f (c05_pairs_enc kvs hc f (by omega)) rest tail

mutual
  /-- the fuel a value needs is bounded by the length of its encoding: what `readFrame` hands down
      (the bytes that remain, + 8) is enough for whatever the frame holds -/
  theorem needF_le : ∀ v : FVal, needF v ≤ (encFVal v).length + 1
    | .bool _ | .byte _ | .i16 _ | .i32 _ | .i64 _ | .f32 _ | .f64 _ | .decimal _ _ | .str _ | .time _ | .nil | .bytes _ => by
      simp [needF]
    | .arr xs => by
      have := needFs_le xs
      simp only [needF, encFVal, List.length_cons, List.length_append, be_length]; omega
    | .table kvs => by
      have := needPairs_le kvs
      simp only [needF, encFVal, encTable, List.length_cons, List.length_append, be_length]; omega
  theorem needFs_le : ∀ xs : List FVal, needFs xs ≤ (encFVals xs).length + 2
    | [] => by simp [needFs]
    | x :: xs => by
      have h1 := needF_le x
      have h2 := needFs_le xs
      have h3 : 1 ≤ (encFVal x).length := by cases x <;> simp [encFVal]
      simp only [needFs, encFVals, List.length_append]; omega
  theorem needPairs_le : ∀ kvs : List (Bytes × FVal), needPairs kvs ≤ (encPairs kvs).length + 1
    | [] => by simp [needPairs]
    | (k, v) :: rest => by
      have h1 := needF_le v
      have h2 := needPairs_le rest
      simp only [needPairs, encPairs, List.length_cons, List.length_append]; omega
end

/-- the octet a list of flags is packed into (bit k = k-th flag) -/
def packBits : List Bool → Nat
  | [] => 0
  | b :: bs => (if b then 1 else 0) + 2 * packBits bs

theorem packBits_lt : ∀ bs : List Bool, packBits bs < 2 ^ bs.length
  | [] => by simp [packBits]
  | b :: bs => by
    have := packBits_lt bs
    cases b <;> simp only [packBits, List.length_cons, Nat.pow_succ, if_true, if_false, Bool.false_eq_true] <;> omega

theorem zipIdx_pack (bs : List Bool) : ∀ k : Nat,
    ((bs.zipIdx k).map fun (b, i) => if b then 2 ^ i else 0).foldl (· + ·) 0 = 2 ^ k * packBits bs := by
  induction bs with
  | nil => intro k; simp [packBits]
  | cons b bs ih =>
    intro k
    simp only [List.zipIdx_cons, List.map_cons, List.foldl_cons, Nat.zero_add]
    rw [← Nat.add_zero (if b = true then 2 ^ k else 0), List.foldl_assoc, ih (k + 1)]
    cases b <;> simp [packBits, Nat.pow_succ, Nat.mul_add, Nat.mul_assoc]

theorem bit_pack : ∀ (bs : List Bool) (i : Nat), bit (packBits bs) i = bs.getD i false
  | [], i => by simp [bit, packBits]
  | b :: bs, 0 => by
    cases b <;> simp only [bit, packBits, Nat.pow_zero, Nat.div_one, List.getD_cons_zero, if_true, if_false,
      Bool.false_eq_true, decide_eq_true_eq, decide_eq_false_iff_not] <;> omega
  | b :: bs, i + 1 => by
    have ih := bit_pack bs i
    have hdiv : ((if b then 1 else 0) + 2 * packBits bs) / 2 ^ (i + 1) = packBits bs / 2 ^ i := by
      rw [Nat.pow_succ, Nat.mul_comm (2 ^ i) 2, ← Nat.div_div_eq_div_mul]
      congr 1
      cases b <;> simp only [if_true, if_false, Bool.false_eq_true] <;> omega
    simp only [bit, packBits, hdiv, List.getD_cons_succ] at ih ⊢
    exact ih

theorem flags_zip (names : List String) : ∀ (bs : List Bool) (k V : Nat),
    (∀ j, j < bs.length → bit V (k + j) = bs.getD j false) → names.length = bs.length →
    (names.zipIdx k).map (fun (n, i) => (n, AVal.flag (bit V i))) = names.zip (bs.map AVal.flag) := by
  induction names with
  | nil => intro bs k V _ _; simp
  | cons n ns ih =>
    intro bs k V hb hl
    cases bs with
    | nil => simp at hl
    | cons b bs =>
      have h0 := hb 0 (by simp)
      simp only [Nat.add_zero, List.getD_cons_zero] at h0
      have := ih bs (k + 1) V (fun j hj => by
        have := hb (j + 1) (by simp only [List.length_cons]; omega)
        simpa [Nat.add_assoc, Nat.add_comm 1 j] using this) (by simpa using hl)
      simp [List.zipIdx_cons, h0, this]

def confArg : Kind → Arg → Bool
  | .octet, .octet n => decide (n < 256)
  | .short, .short n => decide (n < 65536)
  | .long, .long n => decide (n < 4294967296)
  | .longlong, .longlong n => decide (n < 18446744073709551616)
  | .shortstr, .shortstr s => decide (s.length < 256)
  | .longstr, .longstr s => decide (s.length ≤ 2147483647)
  | .table, .table t => confPairs t && decide ((encPairs t).length ≤ 2147483647)
  | .timestamp, .timestamp t => timeok t
  | .bits names, .bits bs => decide (names.length = bs.length) && decide (bs.length ≤ 8)
  | _, _ => false

def confArgs : List (String × Kind) → List Arg → Bool
  | [], [] => true
  | (_, k) :: fs, a :: as => confArg k a && confArgs fs as
  | _, _ => false

def kindNames (name : String) : Kind → List String
  | .bits names => names
  | _ => [name]

def argsLen (as : List Arg) : Nat := (encArgs as).length

theorem map_of_ok {α β : Type} {r : R α} {f : α × St → β × St} {x : α × St} (h : r = .ok x) : r.map f = .ok (f x) := by
  rw [h]; rfl

theorem readKind_enc (name : String) (k : Kind) (a : Arg) (hc : confArg k a = true) (fuel : Nat)
    (hf : (encArg a).length + 2 ≤ fuel) (rest : Bytes) (tail : Tail) :
    readKind fuel name k { rem := encArg a ++ rest, tail } =
      .ok ((kindNames name k).zip (argToAVal a), { rem := rest, tail }) := by
  unfold readKind
  -- `confArg`'s own alternatives, in its order
  unfold confArg at hc
  split at hc
  · exact map_of_ok (readUInt_be 1 _ (of_decide_eq_true hc) rest tail)
  · exact map_of_ok (readUInt_be 2 _ (of_decide_eq_true hc) rest tail)
  · exact map_of_ok (readUInt_be 4 _ (of_decide_eq_true hc) rest tail)
  · exact map_of_ok (readUInt_be 8 _ (of_decide_eq_true hc) rest tail)
  · exact map_of_ok (readShortStr_cons _ rest tail (of_decide_eq_true hc))
  · exact map_of_ok (readLongStr_exact _ rest tail (of_decide_eq_true hc))
  · next t =>
    simp only [Bool.and_eq_true, decide_eq_true_eq] at hc
    have hn := needPairs_le t
    exact map_of_ok (c05_table_enc t hc.1 hc.2 fuel (by
      simp only [encArg, encTable, List.length_append, be_length] at hf; omega) rest tail)
  · next t =>
    simp only [timeok, Bool.and_eq_true, decide_eq_true_eq] at hc
    obtain ⟨u, hu, hs⟩ := readUInt_beInt 8 (.inr (.inr rfl)) t (by omega) rest tail
    exact (map_of_ok hu).trans (by simp only [hs, clampTime_eq hc]; rfl)
  · next names bs =>
    simp only [Bool.and_eq_true, decide_eq_true_eq] at hc
    have h256 : packBits bs < 2 ^ 8 := Nat.lt_of_lt_of_le (packBits_lt bs) (Nat.pow_le_pow_right (by decide) hc.2)
    have hu : readUInt 1 { rem := encArg (.bits bs) ++ rest, tail } = .ok (packBits bs, { rem := rest, tail }) := by
      have := readUInt_one (UInt8.ofNat (packBits bs)) rest tail
      rw [UInt8.toNat_ofNat', Nat.mod_eq_of_lt h256] at this
      rw [← this, encArg, zipIdx_pack bs 0, Nat.pow_zero, Nat.one_mul]; rfl
    have hz := flags_zip names bs 0 _ (fun j _ => by simpa using bit_pack bs j) hc.1
    exact (map_of_ok hu).trans (by show Except.ok (_, _) = Except.ok (names.zip (bs.map AVal.flag), _); rw [← hz])
  · cases hc

theorem confArg_names (n : String) (k : Kind) (a : Arg) (hc : confArg k a = true) :
    (kindNames n k).length = (argToAVal a).length := by
  unfold confArg at hc
  split at hc
  -- `confArg`'s own alternatives (81 pairs of constructors otherwise): the ninth is `.bits`, the tenth the catch-all
  case h_9 =>
    simp only [Bool.and_eq_true, decide_eq_true_eq] at hc
    simpa [kindNames, argToAVal] using hc.1
  case h_10 => cases hc
  all_goals rfl

theorem argNames_cons (n : String) (k : Kind) (fs : List (String × Kind)) :
    argNames ((n, k) :: fs) = kindNames n k ++ argNames fs := by
  cases k <;> rfl

theorem encArg_len_le (a : Arg) (as : List Arg) : (encArg a).length ≤ (encArgs (a :: as)).length := by
  simp [encArgs]

/-- **Method arguments round-trip**, for the field list of any method (of the regenerated table or not). -/
theorem c05_args_enc : ∀ (fields : List (String × Kind)) (as : List Arg), confArgs fields as = true →
    ∀ (fuel : Nat), (encArgs as).length + 2 ≤ fuel → ∀ (rest : Bytes) (tail : Tail),
    readArgs fuel fields { rem := encArgs as ++ rest, tail } =
      .ok ((argNames fields).zip (as.flatMap argToAVal), { rem := rest, tail })
  | [], [], _, fuel, _, rest, tail => by simp [readArgs, encArgs, argNames]
  | [], _ :: _, hc, _, _, _, _ => by simp [confArgs] at hc
  | _ :: _, [], hc, _, _, _, _ => by simp [confArgs] at hc
  | (n, k) :: fs, a :: as, hc, fuel, hf, rest, tail => by
    simp only [confArgs, Bool.and_eq_true] at hc
    have hlen : (encArgs (a :: as)).length = (encArg a).length + (encArgs as).length := by simp [encArgs]
    have h1 := readKind_enc n k a hc.1 fuel (by omega) (encArgs as ++ rest) tail
    have h2 := c05_args_enc fs as hc.2 fuel (by omega) rest tail
    have he : encArgs (a :: as) ++ rest = encArg a ++ (encArgs as ++ rest) := by simp [encArgs]
    rw [he]
    simp only [readArgs, h1, h2]
    rw [argNames_cons, List.flatMap_cons, List.zip_append (confArg_names n k a hc.1)]

/-- a frame of the reference encoder is read back as whatever its payload part is read back as -/
theorem readFrame_frameBytes (typ ch : Nat) (payload rest : Bytes) (tail : Tail) (f : Frame) (htyp : typ < 256)
    (hch : ch < 65536) (hl : payload.length ≤ 16000000)
    (hp : parsedFrame ((frameBytes typ ch payload ++ rest).length + 8) typ ch payload.length
      { rem := payload ++ ([206] ++ rest), tail } = .ok (f, { rem := [206] ++ rest, tail })) :
    readFrame { rem := frameBytes typ ch payload ++ rest, tail } = .ok (f, { rem := rest, tail }) := by
  have h7 : readFull 7 { rem := be 1 typ ++ (be 2 ch ++ (be 4 payload.length ++ (payload ++ ([206] ++ rest)))), tail } =
      .ok (be 1 typ ++ (be 2 ch ++ be 4 payload.length), { rem := payload ++ ([206] ++ rest), tail }) := by
    have := readFull_exact (be 1 typ ++ (be 2 ch ++ be 4 payload.length)) (payload ++ ([206] ++ rest)) tail
    simpa only [List.length_append, be_length, List.append_assoc] using this
  have h1 : (be 1 typ ++ (be 2 ch ++ be 4 payload.length)).drop 1 = be 2 ch ++ be 4 payload.length :=
    List.drop_left' (be_length 1 typ)
  have h3 : (be 1 typ ++ (be 2 ch ++ be 4 payload.length)).drop 3 = be 4 payload.length := by
    rw [← List.append_assoc]; exact List.drop_left' (by simp only [List.length_append, be_length])
  rw [readFrame_eq]
  simp only [frameBytes, List.append_assoc]
  rw [h7]
  have hg : ((be 1 typ ++ (be 2 ch ++ be 4 payload.length)).getD 0 0).toNat = typ := by
    simp only [be_one, List.cons_append, List.getD_cons_zero, UInt8.toNat_ofNat']; exact Nat.mod_eq_of_lt htyp
  simp only [hg, h1, h3, List.take_left' (be_length 2 ch), List.take_of_length_le (Nat.le_of_eq (be_length 4 _)), beNat_be,
    Nat.mod_eq_of_lt (show ch < 256 ^ 2 from hch), Nat.mod_eq_of_lt (show payload.length < 256 ^ 4 by omega)]
  rw [frameRest, if_neg (by omega)]
  simp only [frameBytes, List.append_assoc] at hp
  rw [hp]
  simp only [show readFull 1 { rem := [206] ++ rest, tail } = _ from readFull_exact [206] rest tail]
  rfl

theorem c05_body_frame (ch : Nat) (payload rest : Bytes) (tail : Tail) (hch : ch < 65536) (hl : payload.length ≤ 16000000) :
    readFrame { rem := encFrame (.body ch payload) ++ rest, tail } = .ok (.body ch payload, { rem := rest, tail }) := by
  refine readFrame_frameBytes 3 ch payload rest tail _ (by decide) hch hl ?_
  simp only [parsedFrame, readFull_exact payload ([206] ++ rest) tail, Nat.reduceEqDiff, if_false, if_true]

/-- **Method frames are reported exactly**: every method of the regenerated table, any channel, strings of
    any bytes, tables of any nesting, every flag combination; reading resumes right after the frame-end octet. -/
theorem c05_method_frame (ch c m : Nat) (args : List Arg) (typ : String) (fields : List (String × Kind))
    (hlook : lookupMethod c m = some (typ, fields)) (hconf : confArgs fields args = true)
    (hch : ch < 65536) (hc : c < 65536) (hm : m < 65536) (hl : 4 + (encArgs args).length ≤ 16000000)
    (rest : Bytes) (tail : Tail) :
    readFrame { rem := encFrame (.method ch c m args) ++ rest, tail } =
      .ok (.method ch c m typ ((argNames fields).zip (args.flatMap argToAVal)), { rem := rest, tail }) := by
  have hpl : (be 2 c ++ be 2 m ++ encArgs args).length = 4 + (encArgs args).length := by
    simp only [List.length_append, be_length]
  refine readFrame_frameBytes 1 ch _ rest tail _ (by decide) hch (by omega) ?_
  simp only [parsedFrame, if_true, List.append_assoc, readUInt_be 2 c hc, readUInt_be 2 m hm, hlook]
  rw [c05_args_enc fields args hconf _ (by simp only [frameBytes, List.length_append]; omega)]

/-- Non-vacuity: `queue.declare` with a nested argument table conforms. -/
example : confArgs [("reserved1", .short), ("queue", .shortstr), ("flags", .bits ["passive", "durable", "exclusive", "autoDelete", "noWait"]), ("arguments", .table)]
    [.short 0, .shortstr [113], .bits [false, true, false, false, true],
     .table [([120], .arr [.i32 (-1), .str [0, 255], .table [([97], .bool true)]])]] = true := by
  simp [confArgs, confArg, confPairs, confF, confFs, i32ok, encPairs, encFVal, encFVals, encTable, beInt, be]

theorem heartbeat_skipped (isClient : Bool) (s : DState) (ch : Nat) :
    onFrame isClient s (.heartbeat ch) = (s, []) := rfl

/-- such a method only becomes the "last method", to which content frames are attributed -/
theorem unreported_method_no_event (isClient : Bool) (s : DState) (ch c m : Nat) (typ : String)
    (args : List (String × AVal))
    (h1 : (typ == "BasicPublish") = false) (h2 : (typ == "BasicDeliver") = false)
    (h3 : (typ == "ConnectionStart" || typ == "connectionTune") = false)
    (h4 : plainEventTypes.contains typ = false) :
    (onFrame isClient s (.method ch c m typ args)).2 = [] := by
  have h4' : typ ∉ plainEventTypes := by
    intro hc; have := List.contains_iff_mem.mpr hc; rw [h4] at this; cases this
  simp [onFrame, h1, h2, h3, h4']

/-- **The dissector's argument decoders follow the protocol**: the table re-translated on every run from the
    `read` functions of spec091.go (fields in reading order, their kinds, which bit feeds which flag) is the
    specified AMQP 0-9-1 table; likewise the content properties and their flag bits. -/
theorem c05_method_table : Gen.Amqp.methods = SpecTable.methods := rfl

theorem c05_property_table : Gen.Amqp.properties = SpecTable.properties := rfl

end KsVerif.Proofs.C05
