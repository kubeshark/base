/-
  C02 for the AMQP model: what the Dissect loop of pkg/extensions/amqp/main.go can cost.  A frame read after
  which the loop goes on has consumed 7 bytes at least; every event costs four bytes of the half, and the
  events carry no more body bytes than it held, whatever the frames declare; and the model's fuel, an
  artefact of writing the recursion of read.go structurally, never runs out.
-/
import KsVerif.Amqp.Dissect
import KsVerif.Proofs.AmqpRead

namespace KsVerif.Proofs.C02Amqp
open KsVerif.Amqp KsVerif.Proofs.AmqpRead
open KsVerif.Proofs.Lemmas (Post)

def InvF (n : Nat) (st : St) : R FVal → Prop
  | .ok (_, st') => st'.rem.length + 1 ≤ st.rem.length
  | .error f => f.st.rem.length ≤ st.rem.length ∧ (st.rem.length + 1 ≤ n → f.err ≠ .outOfFuel)

def InvA (n : Nat) (st : St) : R (List FVal) → Prop
  | .ok (_, st') => st'.rem.length ≤ st.rem.length
  | .error f => f.st.rem.length ≤ st.rem.length ∧ (st.rem.length + 2 ≤ n → f.err ≠ .outOfFuel)

def InvT (n : Nat) (st : St) : R (List (Bytes × FVal)) → Prop
  | .ok (_, st') => st'.rem.length + 4 ≤ st.rem.length
  | .error f => f.st.rem.length ≤ st.rem.length ∧ (st.rem.length + 1 ≤ n → f.err ≠ .outOfFuel)

def InvP (n : Nat) (st : St) : Except Fail (List (Bytes × FVal)) → Prop
  | .ok _ => True
  | .error f => st.rem.length + 1 ≤ n → f.err ≠ .outOfFuel

theorem fields_inv : ∀ (n : Nat),
    (∀ st r, readField n st = r → InvF n st r) ∧
    (∀ st r, readArrayItems n st = r → InvA n st r) ∧
    (∀ st r, readTable n st = r → InvT n st r) ∧
    (∀ st r, readPairs n st = r → InvP n st r) := by
  intro n
  have ⟨hF, hA, hT, hP⟩ := fields_reads_any n
  refine ⟨fun st r h => h ▸ ?_, fun st r h => h ▸ ?_, fun st r h => h ▸ ?_, fun st r h => h ▸ ?_⟩
  · exact (hF st).cases (fun _ ⟨h, q⟩ => ⟨h, q.2⟩) fun _ _ h _ => h
  · exact (hA st).cases (fun _ ⟨h, q⟩ => ⟨h, q.2⟩) fun _ _ h _ => h
  · exact (hT st).cases (fun _ ⟨h, q⟩ => ⟨h, q.2⟩) fun _ _ h _ => h
  · exact (hP st).cases (fun _ q => q.2) fun _ _ => trivial

/-- a protocol error is the case in which Dissect goes on reading: the 7-byte header at least is gone then -/
def InvFrame (st : St) : R Frame → Prop
  | .ok (f, st') => st'.rem.length + 8 ≤ st.rem.length ∧
      (∀ ch b, f = .body ch b → st'.rem.length + 8 + b.length = st.rem.length)
  | .error f => f.err ≠ .outOfFuel ∧ (f.err.isProtocol = true → f.st.rem.length + 7 ≤ st.rem.length)

theorem readFrame_inv (st : St) (r : R Frame) (h : readFrame st = r) : InvFrame st r :=
  h ▸ (readFrame_post st).cases (fun _ ⟨hf, hp⟩ => ⟨hf.2 trivial, hp⟩) fun (_, _) h => h

def bodyBytes : List Event → Nat
  | [] => 0
  | e :: rest => (match e.body with | some b => b.length | none => 0) + bodyBytes rest

theorem bodyBytes_append (a b : List Event) : bodyBytes (a ++ b) = bodyBytes a + bodyBytes b := by
  induction a with
  | nil => simp [bodyBytes]
  | cons e rest ih => simp only [List.cons_append, bodyBytes, ih, Nat.add_assoc]

def payloadLen : Frame → Nat
  | .body _ b => b.length
  | _ => 0

theorem payloadLen_le {f : Frame} {x y : Nat} (hx : x ≤ y) (hb : ∀ ch b, f = .body ch b → x + b.length = y) :
    x + payloadLen f ≤ y := by
  cases f with
  | body ch b => exact Nat.le_of_eq (hb ch b rfl)
  | _ => exact hx

def EventsOk (f : Frame) (o : DState × List Event) : Prop :=
  o.2.length ≤ 2 ∧ bodyBytes o.2 ≤ payloadLen f

theorem EventsOk.ite {f : Frame} {c : Prop} [Decidable c] {a b : DState × List Event} (ha : EventsOk f a)
    (hb : EventsOk f b) : EventsOk f (if c then a else b) := by
  split <;> assumption

theorem onFrame_events (isClient : Bool) (s : DState) (f : Frame) : EventsOk f (onFrame isClient s f) := by
  have none : 0 ≤ 2 ∧ 0 ≤ payloadLen f := ⟨Nat.zero_le _, Nat.zero_le _⟩
  cases f with
  | heartbeat ch => exact none
  | header ch c sz props => exact .ite none (.ite none none)
  | body ch payload =>
    -- after a publish / deliver: the content, carrying the payload, and an empty counterpart
    have two : 2 ≤ 2 ∧ payload.length + (0 + 0) ≤ payload.length := ⟨Nat.le_refl _, Nat.le_refl _⟩
    exact .ite two (.ite two none)
  | method ch c m typ args =>
    -- publish / deliver only set the state; ConnectionStart / connectionTune emit two events, the plain types one
    have two : 2 ≤ 2 ∧ 0 + (0 + 0) ≤ 0 := ⟨Nat.le_refl _, Nat.le_refl _⟩
    have one : 1 ≤ 2 ∧ 0 + 0 ≤ 0 := ⟨Nat.le_succ 1, Nat.le_refl _⟩
    exact .ite none (.ite none (.ite two (.ite one none)))

/-- C02 and C01 (AMQP, model) in one induction over the Dissect loop: an event costs four bytes of the half
    at least, and the events carry no more body bytes than it held; neither the loop's fuel nor a panic is
    what ends it -/
theorem dissect_bounds (isClient : Bool) : ∀ (fuel : Nat) (s : DState) (st : St),
    4 * (dissect isClient fuel s st).1.length + bodyBytes (dissect isClient fuel s st).1 ≤ st.rem.length ∧
    Fails (st.rem.length + 1 ≤ fuel) (dissect isClient fuel s st).2 := by
  intro fuel
  induction fuel with
  | zero => exact fun s st => ⟨Nat.zero_le _, rfl, fun h => by omega⟩
  | succ n ih =>
    intro s st
    simp only [dissect]
    refine (readFrame_post st).cases (fun f ⟨hf, hp⟩ => ?_) fun (frame, st') ⟨h8, hb⟩ => ?_
    · dsimp only
      split
      next hprot =>
        have ⟨h1, h2⟩ := ih s f.st
        have := hp hprot
        exact ⟨by omega, h2.mono (by omega)⟩
      next => exact ⟨Nat.zero_le _, hf.mono fun _ => trivial⟩
    · have ⟨hn, hbody⟩ := onFrame_events isClient s frame
      have ⟨h1, h2⟩ := ih (onFrame isClient s frame).1 st'
      have := payloadLen_le (f := frame) h8 hb
      dsimp only at this ⊢
      refine ⟨?_, h2.mono (by omega)⟩
      rw [List.length_append, bodyBytes_append]
      omega

theorem dissectAll_bounds (isClient : Bool) (bytes : Bytes) (tail : Tail) :
    4 * (dissectAll isClient bytes tail).1.length + bodyBytes (dissectAll isClient bytes tail).1 ≤ bytes.length ∧
    Fails True (dissectAll isClient bytes tail).2 :=
  have ⟨h1, h2⟩ := dissect_bounds isClient (bytes.length + 2) {} { rem := bytes, tail }
  ⟨h1, h2.mono fun _ => by show bytes.length + 1 ≤ bytes.length + 2; omega⟩

theorem c02_amqp_events_le_bytes (isClient : Bool) (bytes : Bytes) (tail : Tail) :
    4 * (dissectAll isClient bytes tail).1.length ≤ bytes.length := by
  have := (dissectAll_bounds isClient bytes tail).1
  omega

theorem c02_amqp_bodies_le_bytes (isClient : Bool) (bytes : Bytes) (tail : Tail) :
    bodyBytes (dissectAll isClient bytes tail).1 ≤ bytes.length := by
  have := (dissectAll_bounds isClient bytes tail).1
  omega

/-- the fuel of the model never decides: neither the loop's nor that of the nested readers -/
theorem c02_amqp_dissect_total (isClient : Bool) (bytes : Bytes) (tail : Tail) :
    (dissectAll isClient bytes tail).2 ≠ .outOfFuel :=
  (dissectAll_bounds isClient bytes tail).2.2 trivial

/-- a field table or array nested to any depth: with more fuel than bytes, fuel is not what fails -/
theorem c02_amqp_fuel_suffices (fuel : Nat) (st : St) (f : Fail) (hn : st.rem.length + 1 ≤ fuel)
    (h : readField fuel st = .error f) : f.err ≠ .outOfFuel := by
  have := (fields_inv fuel).1 st _ h
  exact this.2 hn

/-- every frame read after which the loop goes on consumed at least the 7-byte header -/
theorem c02_amqp_readFrame_progress (st : St) :
    (∀ f st', readFrame st = .ok (f, st') → st'.rem.length + 8 ≤ st.rem.length) ∧
    (∀ e, readFrame st = .error e → e.err.isProtocol = true → e.st.rem.length + 7 ≤ st.rem.length) := by
  refine ⟨fun f st' h => ?_, fun e h hp => ?_⟩
  · exact (readFrame_inv st _ h).1
  · exact (readFrame_inv st _ h).2 hp

/-- not vacuous: a publish with a two-byte body read from 50 bytes: events are reported, bounded as stated -/
example :
    let bytes : Bytes := [1,0,1,0,0,0,9,0,60,0,40,0,0,1,101,1,107,0,206, 2,0,1,0,0,0,14,0,60,0,0,0,0,0,0,0,0,0,2,0,0,206, 3,0,1,0,0,0,2,104,105,206]
    (dissectAll true bytes .eof).1.length = 2 ∧ bodyBytes (dissectAll true bytes .eof).1 = 2 := by
  decide

end KsVerif.Proofs.C02Amqp
