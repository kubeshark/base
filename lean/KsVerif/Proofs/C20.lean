/-
  C20 — byte and event accounting neither loses nor double-counts: the progress counter of a half
  connection (`Gen.ReadProgress`, translated from pkg/api/api.go on every run) against "the bytes
  fed since the last reading", and the statistics dumps (`Sched.drun`) against the increments.
-/
import KsVerif.Api.Progress
import KsVerif.Sched.Protocols
import KsVerif.Generated.GenAtomicShapes

namespace KsVerif.Proofs.C20
open KsVerif.Progress

theorem run_refines (ops : List Op) : ∀ p : St, run p ops = specRun (p.readBytes - p.lastCurrent) ops := by
  induction ops with
  | nil => intro; rfl
  | cons op ops ih =>
    intro p
    cases op <;> simp only [run, specRun, step, specStep, Gen.ReadProgress.feed, Gen.ReadProgress.current,
      Gen.ReadProgress.reset, ih]
    · congr 1; omega
    · simp
    · simp

/-- For every sequence of feed / read / reset operations on ReadProgress, each reading is the number
    of bytes fed since the previous reading. -/
theorem c20_progress (ops : List Op) :
    run Gen.ReadProgress.init ops = specRun 0 ops :=
  run_refines ops _

/-- What is still pending after `ops` in the spec. -/
def specEnd (pending : Int) : List Op → Int
  | [] => pending
  | op :: ops => specEnd (specStep pending op).1 ops

def fed : List Op → Int
  | [] => 0
  | .feed n :: ops => n + fed ops
  | _ :: ops => fed ops

theorem spec_conservation (ops : List Op) (pending : Int)
    (hnr : ∀ op ∈ ops, op ≠ .reset) :
    (specRun pending ops).sum + specEnd pending ops = pending + fed ops := by
  induction ops generalizing pending with
  | nil => simp [specRun, specEnd, fed]
  | cons op ops ih =>
    obtain ⟨h1, h2⟩ := List.forall_mem_cons.mp hnr
    cases op with
    | feed n =>
      have := ih (pending + n) h2
      simp only [specRun, specStep, specEnd, fed]
      omega
    | current =>
      have := ih 0 h2
      simp only [specRun, specStep, specEnd, fed, List.sum_cons]
      omega
    | reset => exact absurd rfl h1

/-- The capture sizes reported for successive messages add up to the bytes consumed (no reset in
    between): readings plus what is still pending = total fed. -/
theorem c20_conservation (ops : List Op) (hnr : ∀ op ∈ ops, op ≠ .reset) :
    (run Gen.ReadProgress.init ops).sum + specEnd 0 ops = fed ops := by
  rw [c20_progress, spec_conservation ops 0 hnr]; simp

/-- the sequence on which the shipped code used to fail -/
example : run Gen.ReadProgress.init
    [.feed 10, .current, .feed 5, .current, .feed 3, .current] = [10, 5, 3] := by
  rw [c20_progress]; rfl

open KsVerif.Sched

theorem drun_conservation (es : List DEvent) : ∀ s : DState,
    (drun s es).dumps.sum + (drun s es).cell
      = s.dumps.sum + s.cell + (es.filter (· == .inc)).length := by
  induction es with
  | nil => intro s; simp [drun]
  | cons e es ih =>
    intro s
    have := ih (dstep s e)
    simp only [drun, List.foldl_cons] at this ⊢
    rw [this]
    cases e <;> simp [dstep] <;> omega

/-- Whatever the interleaving of increments and dumps: the values the dumps report plus what is left
    in the counter equal the number of increments; each shows up in exactly one dump or in the residue. -/
theorem c20_dump_conservation (es : List DEvent) :
    (drun {} es).dumps.sum + (drun {} es).cell = (es.filter (· == .inc)).length := by
  simpa using drun_conservation es {}

/-- The reset the code performs today is the atomic exchange of the protocol above
    (regenerated shape, checked on every run). -/
theorem c20_reset_shape_atomic : isAtomicReset Gen.Shapes.resetUint64 = true := by decide

/-- the same list as `c19_counter_updates_atomic`: each `inc` event of the dump protocol is one atomic step -/
theorem c20_counter_updates_atomic : Gen.Shapes.statsCounterOps.all Sched.isAtomicCounterOp = true := by decide

example : (drun {} [.inc, .inc, .dump, .inc, .dump, .inc]).dumps = [2, 1] := by decide

end KsVerif.Proofs.C20
