/-
  C18 — a prepared query can be reused and shared between goroutines.

  In the model a prepared query is a value and `eval` a function of (prepared query, record), so
  evaluation cannot change the query and evaluations cannot see each other: the theorems say so
  for every sequence of records and every interleaving.  What they rest on, that the Go
  evaluator writes to no field of a query node, is not a theorem but a checked tie: the store
  facts extracted from eval.go on every run (expected: none) and, in the correspondence check,
  the deep comparison of the prepared tree before and after evaluation and the repeated /
  concurrent evaluations against fresh copies.  Data races inside compiled third-party objects
  (regexp, jp.Expr) are runtime behaviour the model cannot exhibit: partial.
-/
import KsVerif.Kfl.Precompute

namespace KsVerif.Proofs.C18
open KsVerif.Kfl

def evalAll (q : Expr) (records : List Json) : List (Bool × Json) := records.map (eval q)

/-- C18, sequences: every record of any sequence gets, from the shared prepared query,
    what a freshly prepared copy evaluated on that record alone gives — whatever came before
    it (matches, failures, collapses, redactions). -/
theorem c18_sequence (raw : Expr) (records : List Json) :
    evalAll (precompute raw).node records = records.map (fun r => eval (precompute raw).node r) := rfl

theorem c18_order_irrelevant (q : Expr) (rs₁ rs₂ : List Json) (r : Json)
    (h₁ : r ∈ rs₁) (h₂ : r ∈ rs₂) :
    eval q r ∈ evalAll q rs₁ ∧ eval q r ∈ evalAll q rs₂ :=
  ⟨List.mem_map_of_mem h₁, List.mem_map_of_mem h₂⟩

/-- a goroutine: the record it evaluates and, once it is done, its result -/
structure Task where
  record : Json
  done : Option (Bool × Json) := none

/-- one scheduler step: goroutine `i` finishes its evaluation (reads only `q` and its record) -/
def stepTask (q : Expr) (ts : List Task) (i : Nat) : List Task :=
  ts.mapIdx fun j t => if j = i ∧ t.done.isNone then { t with done := some (eval q t.record) } else t

def runSched (q : Expr) (ts : List Task) (sched : List Nat) : List Task := sched.foldl (stepTask q) ts

theorem stepTask_inv (q : Expr) (ts : List Task) (i : Nat)
    (h : ∀ t ∈ ts, ∀ r, t.done = some r → r = eval q t.record) :
    ∀ t ∈ stepTask q ts i, ∀ r, t.done = some r → r = eval q t.record := by
  intro t ht r hr
  simp only [stepTask, List.mem_mapIdx] at ht
  obtain ⟨j, hj, rfl⟩ := ht
  by_cases hc : j = i ∧ ts[j].done.isNone = true
  · rw [if_pos hc] at hr ⊢
    simp only [Option.some.injEq] at hr
    exact hr.symm
  · rw [if_neg hc] at hr ⊢
    exact h _ (List.getElem_mem hj) r hr

/-- C18, interleavings: under every interleaving of the evaluations of any number of
    goroutines sharing one prepared query, each result is the solo result for its record. -/
theorem c18_interleaving (q : Expr) (sched : List Nat) : ∀ (ts : List Task),
    (∀ t ∈ ts, ∀ r, t.done = some r → r = eval q t.record) →
    ∀ t ∈ runSched q ts sched, ∀ r, t.done = some r → r = eval q t.record :=
  fun _ h => List.foldlRecOn (motive := fun ts => ∀ t ∈ ts, ∀ r, t.done = some r → r = eval q t.record)
    sched (stepTask q) h fun ts h i _ => stepTask_inv q ts i h

end KsVerif.Proofs.C18
