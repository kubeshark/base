/-
  C16 — click-to-filter queries and protocol macros are true of their own entries.
  `Summarize` builds its queries as  <path> == "<value of that path in the entry>" (or a
  number): over the models of Precompute and Eval such a query is true of the entry, whatever
  the value.  The lexical side (the value must not hold a quote, a backslash or a control
  character for the query text to parse back to this tree) is a recorded finding and is
  exercised by the correspondence check together with the real parser; macros are checked on
  every entry of every family against every registered macro.  Partial.
-/
import KsVerif.Proofs.C12Dec
import KsVerif.Proofs.KflPath

namespace KsVerif.Proofs.C16
open KsVerif.Kfl KsVerif.Proofs.C12Dec KsVerif.Proofs.KflPath

/-- the tree of `ident == "c"` -/
def eqStrQuery (ident c : String) : Expr :=
  .mk (.one (.bin (.one (.pri (.call ident .none .none none none))) "==" (.one (.one (.pri (.str c))))))

/-- the tree of `ident == n` for a number -/
def eqNumQuery (ident : String) (d : Dec) : Expr :=
  .mk (.one (.bin (.one (.pri (.call ident .none .none none none))) "==" (.one (.one (.pri (.num d))))))

/-- Precompute compiles `ident` to the plain path `p` (a last segment `now` would make it a helper call) -/
def PlainIdent (ident : String) (p : Path) : Prop :=
  Path.parse ("." ++ ident) = .ok p ∧ (lastSegment ("." ++ ident) == "now") = false

/-- the tree of `ident == rhs`; `jp` is the path Precompute stores in the call -/
def eqQuery (ident : String) (jp : Option Path) (rhs : Primary) : Expr :=
  .mk (.one (.bin (.one (.pri (.call ident .none .none jp none))) "==" (.one (.one (.pri rhs)))))

/-- Whether the last segment of `ident` is a helper name other than `now` only decides the `unsup`
    flag of Precompute, not the tree: no hypothesis about it is needed. -/
theorem precompute_eqQuery {ident : String} {p : Path} (hid : PlainIdent ident p) {rhs : Primary}
    (hrhs : (computePrimary rhs "" "").node = rhs) :
    (precompute (eqQuery ident none rhs)).node = eqQuery ident (some p) rhs := by
  simp only [eqQuery, precompute, computeExpr, computeLogical, computeEquality, computeComparison, computeUnary,
    computePrimary, hrhs]
  unfold computeCall
  simp only
  unfold finishCall
  simp [hid.1, hid.2]

theorem eval_eqQuery (ident : String) {p : Path} {rhs : Primary} {x w entry : Json}
    (hval : evalPrimary rhs entry = { v := .json w, obj := entry }) (hget : Path.getAllOf p entry = [x]) :
    (eval (eqQuery ident (some p) rhs) entry).1 = eql (.json x) (.json w) := by
  have hcall : evalPrimary (.call ident .none .none (some p) none) entry = { v := .json x, obj := entry } := by
    unfold evalPrimary
    simp [hget]
  simp only [eqQuery, eval, evalExpr, evalLogical, evalEquality, evalComparison, evalUnary, hcall, hval]
  simp [equalityOp, boolOperand, Val.ofBool]

theorem eq_str_query {ident : String} {p : Path} (hid : PlainIdent ident p) {c : String} {entry : Json}
    (hget : Path.getAllOf p entry = [.str c]) :
    (eval (precompute (eqStrQuery ident c)).node entry).1 = true := by
  rw [show eqStrQuery ident c = eqQuery ident none (.str c) from rfl, precompute_eqQuery hid rfl,
    eval_eqQuery ident (w := .str c) rfl hget, eql_scalar (fun _ => Json.noConfusion) (fun _ => Json.noConfusion)]
  exact beq_self_eq_true _

/-- the literal is a float64, the record's value an int64: `==` compares their decimal texts -/
theorem eq_int_query {ident : String} {p : Path} (hid : PlainIdent ident p) {n : Int} {entry : Json}
    (hget : Path.getAllOf p entry = [.int n]) :
    (eval (precompute (eqNumQuery ident ⟨n, 0⟩)).node entry).1 = true := by
  rw [show eqNumQuery ident ⟨n, 0⟩ = eqQuery ident none (.num ⟨n, 0⟩) from rfl, precompute_eqQuery hid rfl,
    eval_eqQuery ident (w := .flt ⟨n, 0⟩) rfl hget, eql_num (a := ⟨n, 0⟩) (b := ⟨n, 0⟩) rfl rfl]
  exact decide_eq_true rfl

/-- For every path, every record and every value: if the record holds the string `c` at the path,
    the query `path == "c"` is true of the record. -/
theorem c16_eq_query_true (ident : String) (p : Path) (c : String) (entry : Json)
    (hparse : Path.parse ("." ++ ident) = .ok p)
    (hnow : (lastSegment ("." ++ ident) == "now") = false)
    (hct : ((compileTimeHelpers.contains (lastSegment ("." ++ ident)) && lastSegment ("." ++ ident) != "limit")
            || lastSegment ("." ++ ident) == "datetime" || lastSegment ("." ++ ident) == "xml") = false)
    (hget : Path.getAllOf p entry = [.str c]) :
    (eval (precompute (eqStrQuery ident c)).node entry).1 = true :=
  eq_str_query ⟨hparse, hnow⟩ hget

/-- If the record holds the integer `n` at the path, the query
    `path == n` is true of the record — for every integer, however large. -/
theorem c16_eq_int_query_true (ident : String) (p : Path) (n : Int) (entry : Json)
    (hparse : Path.parse ("." ++ ident) = .ok p)
    (hnow : (lastSegment ("." ++ ident) == "now") = false)
    (hct : ((compileTimeHelpers.contains (lastSegment ("." ++ ident)) && lastSegment ("." ++ ident) != "limit")
            || lastSegment ("." ++ ident) == "datetime" || lastSegment ("." ++ ident) == "xml") = false)
    (hget : Path.getAllOf p entry = [.int n]) :
    (eval (precompute (eqNumQuery ident ⟨n, 0⟩)).node entry).1 = true :=
  eq_int_query ⟨hparse, hnow⟩ hget

theorem PlainIdent.of_dotted (ks : List String) (k : String) (hks : ∀ k' ∈ ks, IsName k')
    {ident : String} (hk : IsName k := by decide) (hnow : k ≠ "now" := by decide)
    (hid : "." ++ ident = dotted (ks ++ [k]) := by decide) : PlainIdent ident ((ks ++ [k]).map .child) := by
  unfold PlainIdent
  rw [hid, lastSegment_dotted ks k hk]
  refine ⟨parse_dotted _ fun k' h' => ?_, by simpa using hnow⟩
  rcases List.mem_append.mp h' with h | h
  · exact hks k' h
  · rw [List.mem_singleton.mp h]
    exact hk

theorem names_request : ∀ k ∈ ["request"], IsName k := by decide
theorem names_response : ∀ k ∈ ["response"], IsName k := by decide

/-- Redis: `request.command == "<command>"`. -/
theorem c16_redis_method_query (c : String) (entry : Json)
    (h : Path.getAllOf [.child "request", .child "command"] entry = [.str c]) :
    (eval (precompute (eqStrQuery "request.command" c)).node entry).1 = true :=
  eq_str_query (.of_dotted ["request"] "command" names_request) h

/-- Redis: `request.key == "<key>"`. -/
theorem c16_redis_summary_query (c : String) (entry : Json)
    (h : Path.getAllOf [.child "request", .child "key"] entry = [.str c]) :
    (eval (precompute (eqStrQuery "request.key" c)).node entry).1 = true :=
  eq_str_query (.of_dotted ["request"] "key" names_request) h

/-- HTTP / AMQP: `request.method == "<method>"`. -/
theorem c16_method_query (c : String) (entry : Json)
    (h : Path.getAllOf [.child "request", .child "method"] entry = [.str c]) :
    (eval (precompute (eqStrQuery "request.method" c)).node entry).1 = true :=
  eq_str_query (.of_dotted ["request"] "method" names_request) h

/-- HTTP: `request.path == "<path>"`. -/
theorem c16_http_summary_query (c : String) (entry : Json)
    (h : Path.getAllOf [.child "request", .child "path"] entry = [.str c]) :
    (eval (precompute (eqStrQuery "request.path" c)).node entry).1 = true :=
  eq_str_query (.of_dotted ["request"] "path" names_request) h

/-- HTTP: `response.status == <status>`. -/
theorem c16_http_status_query (n : Int) (entry : Json)
    (h : Path.getAllOf [.child "response", .child "status"] entry = [.int n]) :
    (eval (precompute (eqNumQuery "response.status" ⟨n, 0⟩)).node entry).1 = true :=
  eq_int_query (.of_dotted ["response"] "status" names_response) h

/-- DNS (after the fix): `request.opCode == "<opCode>"`. -/
theorem c16_dns_method_query (c : String) (entry : Json)
    (h : Path.getAllOf [.child "request", .child "opCode"] entry = [.str c]) :
    (eval (precompute (eqStrQuery "request.opCode" c)).node entry).1 = true :=
  eq_str_query (.of_dotted ["request"] "opCode" names_request) h

/-- AMQP exchange declare / basic publish / basic deliver: `request.exchange == "<exchange>"`. -/
theorem c16_amqp_exchange_query (c : String) (entry : Json)
    (h : Path.getAllOf [.child "request", .child "exchange"] entry = [.str c]) :
    (eval (precompute (eqStrQuery "request.exchange" c)).node entry).1 = true :=
  eq_str_query (.of_dotted ["request"] "exchange" names_request) h

/-- AMQP queue declare / queue bind / basic consume: `request.queue == "<queue>"`. -/
theorem c16_amqp_queue_query (c : String) (entry : Json)
    (h : Path.getAllOf [.child "request", .child "queue"] entry = [.str c]) :
    (eval (precompute (eqStrQuery "request.queue" c)).node entry).1 = true :=
  eq_str_query (.of_dotted ["request"] "queue" names_request) h

/-- AMQP connection close: `request.replyText == "<text>"`. -/
theorem c16_amqp_replyText_query (c : String) (entry : Json)
    (h : Path.getAllOf [.child "request", .child "replyText"] entry = [.str c]) :
    (eval (precompute (eqStrQuery "request.replyText" c)).node entry).1 = true :=
  eq_str_query (.of_dotted ["request"] "replyText" names_request) h

/-- AMQP connection open: `request.virtualHost == "<vhost>"`. -/
theorem c16_amqp_virtualHost_query (c : String) (entry : Json)
    (h : Path.getAllOf [.child "request", .child "virtualHost"] entry = [.str c]) :
    (eval (precompute (eqStrQuery "request.virtualHost" c)).node entry).1 = true :=
  eq_str_query (.of_dotted ["request"] "virtualHost" names_request) h

/-- AMQP basic consume-ok / cancel: `request.consumerTag == "<tag>"`. -/
theorem c16_amqp_consumerTag_query (c : String) (entry : Json)
    (h : Path.getAllOf [.child "request", .child "consumerTag"] entry = [.str c]) :
    (eval (precompute (eqStrQuery "request.consumerTag" c)).node entry).1 = true :=
  eq_str_query (.of_dotted ["request"] "consumerTag" names_request) h

/-- AMQP connection tune / tune-ok: `request.channelMax == "<n>"`, the value being the
    string the dissector stores. -/
theorem c16_amqp_channelMax_query (c : String) (entry : Json)
    (h : Path.getAllOf [.child "request", .child "channelMax"] entry = [.str c]) :
    (eval (precompute (eqStrQuery "request.channelMax" c)).node entry).1 = true :=
  eq_str_query (.of_dotted ["request"] "channelMax" names_request) h

/-- Kafka: `request.apiKeyName == "<api>"`. -/
theorem c16_kafka_method_query (c : String) (entry : Json)
    (h : Path.getAllOf [.child "request", .child "apiKeyName"] entry = [.str c]) :
    (eval (precompute (eqStrQuery "request.apiKeyName" c)).node entry).1 = true :=
  eq_str_query (.of_dotted ["request"] "apiKeyName" names_request) h

/-- Kafka ApiVersions: `request.clientID == "<client id>"`. -/
theorem c16_kafka_clientID_query (c : String) (entry : Json)
    (h : Path.getAllOf [.child "request", .child "clientID"] entry = [.str c]) :
    (eval (precompute (eqStrQuery "request.clientID" c)).node entry).1 = true :=
  eq_str_query (.of_dotted ["request"] "clientID" names_request) h

/-- Non-vacuity: a record that satisfies the hypothesis, with a value holding a space. -/
example : Path.getAllOf [.child "request", .child "exchange"]
    (.obj [("request", .obj [("exchange", .str "amq topic"), ("queue", .str "q")])]) = [.str "amq topic"] := by rfl

example : Path.getAllOf [.child "request", .child "command"]
    (.obj [("request", .obj [("command", .str "SET")])]) = [.str "SET"] := by rfl

end KsVerif.Proofs.C16
