/-
  Identifiers that are a chain of member names, `k₁.k₂.….kₙ` (every path the dissectors' summary
  queries use): what `Path.parse` and `lastSegment` make of such a text follows from its segments
  being names, so a theorem about a concrete identifier checks its segments and need not run the
  parser on the text (the kernel decodes string literals slowly).
-/
import KsVerif.Kfl.Precompute
import KsVerif.Proofs.Lemmas

namespace KsVerif.Proofs.KflPath
open KsVerif.Kfl

/-- a member name as the path parser reads it: letters, digits and `_`, at least one -/
def IsName (k : String) : Prop := k ≠ "" ∧ k.toList.all Path.isNameChar = true

instance (k : String) : Decidable (IsName k) := by unfold IsName; infer_instance

def dotted : List String → String
  | [] => ""
  | k :: ks => "." ++ k ++ dotted ks

theorem dotted_toList (k : String) (ks : List String) :
    (dotted (k :: ks)).toList = '.' :: (k.toList ++ (dotted ks).toList) := by
  simp [dotted, String.toList_append]

theorem takeName_name {k : String} (hk : k.toList.all Path.isNameChar = true) (rest : List Char)
    (hr : ∀ c ∈ rest.head?, Path.isNameChar c = false) :
    Path.takeName (k.toList ++ rest) = (k, rest) := by
  have h := Lemmas.span_run hk hr
  rw [Path.takeName, h.1, h.2, String.ofList_toList]

theorem dotted_head (ks : List String) : ∀ c ∈ (dotted ks).toList.head?, Path.isNameChar c = false := by
  cases ks with
  | nil => simp [dotted]
  | cons k ks =>
    rw [dotted_toList]
    rintro c ⟨⟩
    decide

theorem parseRest_dot_name {c : Char} (hc : Path.isNameChar c = true) (f : Nat) (r : List Char) (acc : Path) :
    Path.parseRest (f + 1) ('.' :: c :: r) acc =
      if (Path.takeName (c :: r)).1.isEmpty then .error
      else Path.parseRest f (Path.takeName (c :: r)).2 (.child (Path.takeName (c :: r)).1 :: acc) := by
  have h : c ≠ '.' ∧ c ≠ '*' ∧ c ≠ '[' := by
    refine ⟨?_, ?_, ?_⟩ <;> (rintro rfl; revert hc; decide)
  simp [Path.parseRest, h]

theorem parseRest_dotted : ∀ (ks : List String) (acc : Path) (fuel : Nat), (∀ k ∈ ks, IsName k) → ks.length < fuel →
    Path.parseRest fuel (dotted ks).toList acc = .ok (acc.reverse ++ ks.map .child)
  | _, _, 0, _, hf => absurd hf (Nat.not_lt_zero _)
  | [], _, _ + 1, _, _ => by simp [dotted, Path.parseRest]
  | k :: ks, acc, f + 1, hks, hf => by
    obtain ⟨hne, hall⟩ := hks k (by simp)
    rw [dotted_toList]
    cases hk : k.toList with
    | nil => exact absurd (String.toList_eq_nil_iff.mp hk) hne
    | cons c t =>
      have hc : Path.isNameChar c = true := by
        rw [hk] at hall
        simp at hall
        exact hall.1
      rw [List.cons_append, parseRest_dot_name hc, ← List.cons_append, ← hk, takeName_name hall _ (dotted_head ks),
        if_neg (fun h => hne (String.isEmpty_iff.mp h)),
        parseRest_dotted ks _ f (fun k' hk' => hks k' (List.mem_cons_of_mem _ hk')) (Nat.lt_of_succ_lt_succ hf)]
      simp

theorem dotted_length (ks : List String) : ks.length ≤ (dotted ks).toList.length := by
  induction ks with
  | nil => simp
  | cons k ks ih =>
    rw [dotted_toList]
    simp
    omega

theorem parse_dotted (ks : List String) (hks : ∀ k ∈ ks, IsName k) :
    Path.parse (dotted ks) = .ok (ks.map .child) := by
  cases ks with
  | nil => decide
  | cons k ks =>
    -- the parser's fuel is the length of the text; a name uses one unit and brings its dot
    have := parseRest_dotted (k :: ks) [] ((dotted (k :: ks)).toList.length + 2) hks
      (by have := dotted_length (k :: ks); omega)
    unfold Path.parse
    rw [dotted_toList] at this ⊢
    simpa using this

theorem lastSegChars_no_dot : ∀ (n acc : List Char), '.' ∉ n → lastSegChars n acc = acc.reverse ++ n := by
  intro n
  induction n with
  | nil => simp [lastSegChars]
  | cons c t ih =>
    intro acc h
    have hc : (c == '.') = false := by simpa using fun hc : c = '.' => h (by simp [hc])
    rw [lastSegChars, hc]
    simpa using ih (c :: acc) (fun ht => h (List.mem_cons_of_mem _ ht))

theorem lastSegChars_dot : ∀ (l n acc : List Char), '.' ∉ n → lastSegChars (l ++ '.' :: n) acc = n := by
  intro l
  induction l with
  | nil => intro n acc h; simpa [lastSegChars] using lastSegChars_no_dot n [] h
  | cons c t ih =>
    intro n acc h
    rw [List.cons_append, lastSegChars]
    split <;> exact ih _ _ h

theorem name_no_dot {k : String} (hk : IsName k) : '.' ∉ k.toList :=
  fun h => absurd (List.all_eq_true.mp hk.2 _ h) (by decide)

theorem dotted_append (ks : List String) (k : String) : dotted (ks ++ [k]) = dotted ks ++ "." ++ k := by
  induction ks with
  | nil => simp [dotted]
  | cons a t ih => simp [dotted, ih, String.append_assoc]

theorem lastSegment_dotted (ks : List String) (k : String) (hk : IsName k) : lastSegment (dotted (ks ++ [k])) = k := by
  unfold lastSegment
  rw [dotted_append, String.toList_append, String.toList_append, show ".".toList = ['.'] from rfl,
    List.append_assoc, List.singleton_append, lastSegChars_dot _ _ _ (name_no_dot hk), String.ofList_toList]

end KsVerif.Proofs.KflPath
