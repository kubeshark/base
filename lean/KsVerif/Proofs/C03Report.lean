/-
  C03, the last step, to the observation the check compares: what the model reports of a message read from the
  encoder's bytes (`messageSx`) is what the spec expects for that message - method, target, version, every header
  field under its canonical name, body, status - provided it is not one on which net/http invents a header
  (`Pragma: no-cache` without `Cache-Control`, the recorded finding).
-/
import KsVerif.Proofs.C03Server

namespace KsVerif.Proofs.C03Report
open KsVerif KsVerif.Http KsVerif.Http.Wire KsVerif.Http.Spec KsVerif.Proofs.C03 KsVerif.Proofs.C03Server

/-- framing fields are rebuilt by net/http and the HAR conversion and not compared, so the one the encoder adds does
    not show -/
theorem reported_parsedOf (m : Msg) : reportedHeaders (parsedOf m).headers = reportedHeaders m.headers := by
  unfold reportedHeaders parsedOf
  cases m.framing <;> simp [List.filter_append, isFramingHeader, cl_lower, te_lower]

/-- the condition under which net/http adds nothing: no `Pragma: no-cache` first, or a `Cache-Control` present -/
def NoInvention (hs : List (Bytes × Bytes)) : Prop := pragmaFix hs = hs

theorem messageSx_parsedOf (m : Msg) (hni : NoInvention (parsedOf m).headers) :
    messageSx (parsedOf m) =
      if m.isRequest then
        .list [.atom "req", Sx.ofBytes m.method, Sx.ofBytes m.target, Sx.ofNat m.minor, headersSx m.headers, Sx.ofBytes m.body]
      else .list [.atom "resp", Sx.ofNat m.status, Sx.ofNat m.minor, headersSx m.headers, Sx.ofBytes m.body] := by
  have h : headersSx (pragmaFix (parsedOf m).headers) = headersSx m.headers := by
    rw [show pragmaFix (parsedOf m).headers = (parsedOf m).headers from hni]
    simp only [headersSx, reported_parsedOf]
  simp only [messageSx, h]
  rfl

/-- what is reported of a request is what was sent: the model's report of the message read from the encoder's bytes
    is the spec's expectation for it -/
theorem c03_reported_request (m : Msg) (hw : WfReq m) (hni : NoInvention (parsedOf m).headers) (rest : Bytes) :
    (parseRequest (encMsgCore m ++ rest)).map (fun r => (messageSx r.1, r.2)) =
      some (.list [.atom "req", Sx.ofBytes m.method, Sx.ofBytes m.target, Sx.ofNat m.minor, headersSx m.headers, Sx.ofBytes m.body], rest) := by
  rw [c03_request_enc m hw rest, Option.map_some, messageSx_parsedOf m hni, if_pos hw.isReq]

/-- the same for a response (length- or chunk-delimited, or bodyless by its status) -/
theorem c03_reported_response (m : Msg) (rest : Bytes) (hw : WfResp m rest) (hnc : m.framing ≠ .close)
    (hni : NoInvention (parsedOf m).headers) :
    (parseResponse (encMsgCore m ++ rest)).map (fun r => (messageSx r.1, r.2)) =
      some (.list [.atom "resp", Sx.ofNat m.status, Sx.ofNat m.minor, headersSx m.headers, Sx.ofBytes m.body], rest) := by
  rw [response_read m rest hw hnc, Option.map_some, messageSx_parsedOf m hni, hw.isResp]
  rfl

example : NoInvention (parsedOf exReq).headers := by unfold NoInvention; decide

theorem items_meet_spec : ∀ (conv : List (Msg × Msg)),
    (∀ p ∈ conv, p.1.isRequest = true ∧ NoInvention (parsedOf p.1).headers ∧ p.2.isRequest = false ∧ NoInvention (parsedOf p.2).headers) →
    (((conv.map fun p => parsedOf p.1).zip (conv.map fun p => parsedOf p.2)).map
        fun (x : Message × Message) => Sx.list [messageSx x.1, messageSx x.2, .atom "cs"]) =
      conv.map fun (p : Msg × Msg) => expectedItem p.1 p.2
  | [], _ => rfl
  | p :: conv, h => by
    obtain ⟨h1, h2, h3, h4⟩ := h p (by simp)
    have ih := items_meet_spec conv (fun x hx => h x (by simp [hx]))
    simp only [List.map_cons, List.zip_cons_cons, ih, messageSx_parsedOf p.1 h2, messageSx_parsedOf p.2 h4, h1, h3, expectedItem, if_true,
      Bool.false_eq_true, if_false]

/-- the observation of a well-formed conversation is what the spec expects, for every number of pipelined exchanges:
    one item per exchange, the k-th request with the k-th response, each message reported as sent, nothing left
    over.  Excluded: bodies delimited by the end of the stream, interim statuses as final ones, and the messages on
    which net/http invents a header. -/
theorem c03_observe_meets_spec (conv : List (Msg × Msg))
    (hq : ∀ p ∈ conv, WfReq p.1 ∧ NoInvention (parsedOf p.1).headers)
    (hr : ∀ p ∈ conv, (∀ rest, WfResp p.2 rest) ∧ p.2.framing ≠ .close ∧ ¬ interimStatus p.2.status ∧
      NoInvention (parsedOf p.2).headers) :
    observe ((conv.map fun p => encMsgCore p.1).flatten) ((conv.map fun p => encMsgCore p.2).flatten) = expected conv := by
  have hA := parseAll_flatten_bytes true parseRequest (fun _ => rfl) (fun p : Msg × Msg => encMsgCore p.1) (fun p => parsedOf p.1) conv
    fun p hp rest => c03_request_enc p.1 (hq p hp).1 rest
  have hB : (parseAll false (((conv.map fun p => encMsgCore p.2).flatten).length + 1)
      ((conv.map fun p => encMsgCore p.2).flatten)).filter
      (fun m => !(100 ≤ m.status && m.status < 200 && m.status != 101)) = conv.map fun p => parsedOf p.2 :=
    server_half_final Prod.snd conv (fun p hp => (hr p hp).1) (fun p hp => (hr p hp).2.1) fun p hp => (hr p hp).2.2.1
  unfold observe expected
  simp only [hA, hB]
  rw [items_meet_spec conv fun p hp => ⟨(hq p hp).1.isReq, (hq p hp).2, ((hr p hp).1 []).isResp, (hr p hp).2.2.2⟩]
  simp

end KsVerif.Proofs.C03Report
