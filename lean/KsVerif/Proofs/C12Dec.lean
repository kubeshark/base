/-
  C12 for all numbers of the model - integers of the record, integral and fractional literals and
  decimals: numerically equal numbers compare equal, and `==` agrees with `>=` and `<=` taken
  together.  `==` compares the texts strconv.FormatFloat(x, 'f', -1, 64) prints (`Dec.format`),
  so the core is that this formatter is injective (`format_inj`).
-/
import KsVerif.Kfl.Eval

namespace KsVerif.Proofs.C12Dec
open KsVerif.Kfl

def digs (n : Nat) : List Char := Nat.toDigits 10 n

def pad (l : List Char) (n : Nat) : List Char := List.replicate (n - l.length) '0' ++ l

/-- the padded digits of a decimal with a fraction part -/
def dOf (a : Dec) : List Char := pad (digs a.num.natAbs) (a.exp + 1)
def ipOf (a : Dec) : List Char := (dOf a).take ((dOf a).length - a.exp)
def fpOf (a : Dec) : List Char := (dOf a).drop ((dOf a).length - a.exp)

def signL (a : Dec) : List Char := if a.num < 0 then ['-'] else []

def body (a : Dec) : List Char :=
  if a.exp = 0 then digs a.num.natAbs else ipOf a ++ '.' :: fpOf a

theorem dec_ext : ∀ {a b : Dec}, a.num = b.num → a.exp = b.exp → a = b
  | ⟨_, _⟩, ⟨_, _⟩, rfl, rfl => rfl

theorem format_toList (a : Dec) : (Dec.format a).toList = signL a ++ body a := by
  unfold Dec.format signL body ipOf fpOf dOf
  have hd : (toString a.num.natAbs).toList = digs a.num.natAbs := by
    show a.num.natAbs.repr.toList = _
    rw [Nat.toList_repr]; rfl
  by_cases he : a.exp = 0
  · simp only [he, if_true]
    rw [String.toList_append, hd]
    split <;> rfl
  · simp only [he, if_false]
    have hp : (Dec.padLeft (toString a.num.natAbs) (a.exp + 1)).toList = pad (digs a.num.natAbs) (a.exp + 1) := by
      unfold Dec.padLeft pad
      rw [String.toList_append, String.toList_ofList, hd, ← String.length_toList, hd]
    simp only [String.toList_append, String.toList_ofList, ← String.length_toList, hp]
    split <;> simp

theorem digs_digit {n : Nat} {c : Char} (h : c ∈ digs n) : c.isDigit = true :=
  Nat.isDigit_of_mem_toDigits (by omega) (by omega) h

theorem pad_digs_digit (n k : Nat) : ∀ c ∈ pad (digs n) k, c.isDigit = true := by
  intro c hc
  rcases List.mem_append.mp hc with h | h
  · rw [(List.mem_replicate.mp h).2]
    decide
  · exact digs_digit h

theorem ip_digit (a : Dec) : ∀ c ∈ ipOf a, c.isDigit = true :=
  fun c h => pad_digs_digit _ _ c (List.mem_of_mem_take h)

theorem fp_digit (a : Dec) : ∀ c ∈ fpOf a, c.isDigit = true :=
  fun c h => pad_digs_digit _ _ c (List.mem_of_mem_drop h)

theorem ip_fp (a : Dec) : ipOf a ++ fpOf a = dOf a := List.take_append_drop _ _

theorem fp_length (a : Dec) : (fpOf a).length = a.exp := by
  simp only [fpOf, dOf, pad, List.length_drop, List.length_append, List.length_replicate]
  omega

theorem ofDigitChars_pad (n k : Nat) : Nat.ofDigitChars 10 (pad (digs n) k) 0 = n := by
  rw [pad, Nat.ofDigitChars_append, Nat.ofDigitChars_replicate_zero, Nat.mul_zero]
  exact Nat.ofDigitChars_ten_toDigits

theorem ne_dot {c : Char} (h : c.isDigit = true) : (c != '.') = true := by
  rw [bne_iff_ne]
  rintro rfl
  exact absurd h (by decide)

theorem body_value (a : Dec) : Nat.ofDigitChars 10 ((body a).filter Char.isDigit) 0 = a.num.natAbs := by
  by_cases h : a.exp = 0
  · rw [body, if_pos h, List.filter_eq_self.mpr fun _ => digs_digit]
    exact Nat.ofDigitChars_ten_toDigits
  · rw [body, if_neg h, List.filter_append, List.filter_cons_of_neg (by decide),
      List.filter_eq_self.mpr (ip_digit a), List.filter_eq_self.mpr (fp_digit a), ip_fp]
    exact ofDigitChars_pad _ _

theorem body_scale (a : Dec) :
    ((body a).dropWhile (· != '.')).length = if a.exp = 0 then 0 else a.exp + 1 := by
  by_cases h : a.exp = 0
  · rw [body, if_pos h, if_pos h, ← List.append_nil (digs _),
      List.dropWhile_append_of_pos fun _ hc => ne_dot (digs_digit hc)]
    rfl
  · rw [body, if_neg h, if_neg h, List.dropWhile_append_of_pos fun c hc => ne_dot (ip_digit a c hc),
      List.dropWhile_cons_of_neg (by decide), List.length_cons, fp_length]

theorem minus_not_mem_body (a : Dec) : '-' ∉ body a := by
  intro h
  have : ('-' : Char).isDigit = true := by
    by_cases he : a.exp = 0
    · rw [body, if_pos he] at h
      exact digs_digit h
    · rw [body, if_neg he, List.mem_append, List.mem_cons] at h
      rcases h with h | h | h
      · exact ip_digit a _ h
      · exact absurd h (by decide)
      · exact fp_digit a _ h
  exact absurd this (by decide)

theorem text_sign (a : Dec) : (signL a ++ body a).head? = some '-' ↔ a.num < 0 := by
  unfold signL
  split
  · simp [*]
  · simp only [List.nil_append, *, iff_false]
    exact fun h => minus_not_mem_body a (List.mem_of_mem_head? h)

/-- The text determines the sign (`text_sign`), the digits (`body_value`) and the scale (`body_scale`). -/
theorem format_inj (a b : Dec) (h : Dec.format a = Dec.format b) : a = b := by
  have hl : signL a ++ body a = signL b ++ body b := by rw [← format_toList, ← format_toList, h]
  have hs : a.num < 0 ↔ b.num < 0 := by rw [← text_sign a, ← text_sign b, hl]
  have hb : body a = body b := by
    have : signL a = signL b := by unfold signL; simp only [hs]
    rw [this] at hl
    exact List.append_cancel_left hl
  have hn : a.num.natAbs = b.num.natAbs := by rw [← body_value a, ← body_value b, hb]
  have he : a.exp = b.exp := by
    have := body_scale a
    rw [hb, body_scale b] at this
    split at this <;> split at this <;> omega
  exact dec_ext (by omega) he

theorem format_integral (n : Int) : Dec.format ⟨n, 0⟩ = toString n := by
  unfold Dec.format
  simp only [if_true]
  cases n with
  | ofNat m =>
    have : ¬ (Int.ofNat m < 0) := by simp
    simp only [this, if_false]
    show "" ++ toString m = toString (Int.ofNat m)
    simp; rfl
  | negSucc m =>
    have : Int.negSucc m < 0 := Int.negSucc_lt_zero m
    simp only [this, if_true]
    rfl

/-- no trailing zero in the fraction (what `Dec.mk'` / the parsers of the model produce) -/
def Norm (a : Dec) : Prop := a.exp = 0 ∨ a.num % 10 ≠ 0

/-- a larger scale would put a zero at the end of the fraction -/
theorem exp_le_of_eqv {a b : Dec} (hb : Norm b)
    (h : a.num * (10 : Int) ^ b.exp = b.num * (10 : Int) ^ a.exp) : b.exp ≤ a.exp := by
  apply Nat.le_of_not_lt
  intro hlt
  obtain ⟨k, hk⟩ : ∃ k, b.exp = a.exp + (k + 1) := ⟨b.exp - a.exp - 1, by omega⟩
  rw [hk, Nat.add_comm, Int.pow_add, ← Int.mul_assoc] at h
  have hnum : a.num * (10 : Int) ^ (k + 1) = b.num :=
    (Int.mul_eq_mul_right_iff (Int.pow_ne_zero (by decide : (10 : Int) ≠ 0))).mp h
  rcases hb with h0 | hm
  · omega
  · apply hm
    rw [← hnum, Int.pow_succ, ← Int.mul_assoc]
    exact Int.mul_emod_left _ _

theorem eqv_norm_eq (a b : Dec) (ha : Norm a) (hb : Norm b)
    (h : a.num * (10 : Int) ^ b.exp = b.num * (10 : Int) ^ a.exp) : a = b := by
  have he : a.exp = b.exp := Nat.le_antisymm (exp_le_of_eqv ha h.symm) (exp_le_of_eqv hb h)
  rw [he] at h
  exact dec_ext ((Int.mul_eq_mul_right_iff (Int.pow_ne_zero (by decide : (10 : Int) ≠ 0))).mp h) he

theorem eqv_eq_decide {a b : Dec} (na : Norm a) (nb : Norm b) : Dec.eqv a b = decide (a = b) := by
  unfold Dec.eqv
  by_cases h : a = b
  · simp [h]
  · simpa [h] using fun hq => h (eqv_norm_eq a b na nb hq)

theorem eqv_eq_le_and_le (a b : Dec) : Dec.eqv a b = (Dec.le b a && Dec.le a b) := by
  unfold Dec.eqv Dec.le
  generalize a.num * (10 : Int) ^ b.exp = X
  generalize b.num * (10 : Int) ^ a.exp = Y
  by_cases h : X = Y
  · simp [h]
  · have : ¬ (Y ≤ X ∧ X ≤ Y) := fun hc => h (by omega)
    rw [beq_eq_false_iff_ne.mpr h, ← Bool.decide_and, decide_eq_false this]

theorem normalize_norm : ∀ (fuel : Nat) (n : Int) (e : Nat), e ≤ fuel → Norm (Dec.normalize fuel n e) := by
  intro fuel
  induction fuel with
  | zero =>
    intro n e h
    unfold Dec.normalize
    exact Or.inl (by simp only; omega)
  | succ f ih =>
    intro n e h
    unfold Dec.normalize
    by_cases hc : e > 0 ∧ n % 10 = 0
    · rw [if_pos hc]; exact ih _ _ (by omega)
    · rw [if_neg hc]
      by_cases he : e = 0
      · exact Or.inl he
      · exact Or.inr (fun hm => hc ⟨by omega, hm⟩)

theorem mk'_norm (n : Int) (e : Nat) : Norm (Dec.mk' n e) := normalize_norm e n e (Nat.le_refl e)

theorem ofInt_norm (n : Int) : Norm ⟨n, 0⟩ := Or.inl rfl

/-- a value that is not a list: on these the operators compare one text, one number -/
def Scalar (x : Json) : Prop := ∀ xs, x ≠ .arr xs

theorem eql_scalar {x y : Json} (hx : Scalar x) (hy : Scalar y) :
    eql (.json x) (.json y) = (stringOfJson x == stringOfJson y) := by
  cases x with
  | arr xs => exact absurd rfl (hx xs)
  | _ =>
    cases y with
    | arr ys => exact absurd rfl (hy ys)
    | _ => rfl

theorem ordOp_scalar (rel : Dec → Dec → Bool) {x y : Json} (hx : Scalar x) (hy : Scalar y) :
    ordOp rel (.json x) (.json y) = (!nanJson x && !nanJson y && rel (floatOfJson x) (floatOfJson y)) := by
  cases x with
  | arr xs => exact absurd rfl (hx xs)
  | _ =>
    cases y with
    | arr ys => exact absurd rfl (hy ys)
    | _ => rfl

/-- the numbers of the model: integers of the record, literals and decimals -/
def numOf : Json → Option Dec
  | .int n => some ⟨n, 0⟩
  | .flt d => some d
  | _ => none

theorem numOf_spec {x : Json} {a : Dec} (h : numOf x = some a) :
    Scalar x ∧ nanJson x = false ∧ stringOfJson x = Dec.format a ∧ floatOfJson x = a := by
  cases x <;> cases h
  · exact ⟨fun _ => Json.noConfusion, rfl, (format_integral _).symm, rfl⟩
  · exact ⟨fun _ => Json.noConfusion, rfl, rfl, rfl⟩

theorem eql_num {x y : Json} {a b : Dec} (hx : numOf x = some a) (hy : numOf y = some b) :
    eql (.json x) (.json y) = decide (a = b) := by
  obtain ⟨sx, _, fx, _⟩ := numOf_spec hx
  obtain ⟨sy, _, fy, _⟩ := numOf_spec hy
  rw [eql_scalar sx sy, fx, fy]
  by_cases h : a = b
  · simp [h]
  · simpa [h] using fun hf => h (format_inj a b hf)

theorem ordOp_num (rel : Dec → Dec → Bool) {x y : Json} {a b : Dec} (hx : numOf x = some a) (hy : numOf y = some b) :
    ordOp rel (.json x) (.json y) = rel a b := by
  obtain ⟨sx, nx, _, fx⟩ := numOf_spec hx
  obtain ⟨sy, ny, _, fy⟩ := numOf_spec hy
  rw [ordOp_scalar rel sx sy, nx, ny, fx, fy]
  rfl

/-- Numbers that are numerically equal compare equal, and only those: for any two numbers of the
    model `==` is exact numeric equality. -/
theorem c12_eq_numeric (x y : Json) (a b : Dec) (hx : numOf x = some a) (hy : numOf y = some b)
    (na : Norm a) (nb : Norm b) :
    eql (.json x) (.json y) = Dec.eqv a b := by
  rw [eql_num hx hy, eqv_eq_decide na nb]

/-- `==` agrees with `>=` and `<=` taken together, for any two numbers of the model. -/
theorem c12_eq_coherent_numeric (x y : Json) (a b : Dec) (hx : numOf x = some a) (hy : numOf y = some b)
    (na : Norm a) (nb : Norm b) :
    eql (.json x) (.json y) = (geq (.json x) (.json y) && leq (.json x) (.json y)) := by
  rw [c12_eq_numeric x y a b hx hy na nb, geq, leq, ordOp_num _ hx hy, ordOp_num _ hx hy]
  exact eqv_eq_le_and_le a b

example : eql (.json (.flt ⟨15, 1⟩)) (.json (.flt (Dec.mk' 150 2))) = true ∧
    eql (.json (.flt ⟨15, 1⟩)) (.json (.flt ⟨125, 2⟩)) = false ∧ Norm ⟨15, 1⟩ ∧ Norm ⟨125, 2⟩ := by
  refine ⟨by decide, by decide, Or.inr (by decide), Or.inr (by decide)⟩

end KsVerif.Proofs.C12Dec
