/-
  C02 for the Kafka model: the elements decoded for an array are bounded by the bytes the message still holds,
  not by the count it declares (decode.go: decodeArray and the header loop of decodeRecordV0 clamp the count
  to `remain`; the model carries the clamp, kafka.layout / kafka.conv tie it to the code).  For the header
  loop only the bound by the count it is called with is proved (`repeatWhile_chainLen`).  The messages a
  half yields are bounded by its bytes, and the fuel of the model's loops never decides.
-/
import KsVerif.Proofs.KafkaFrame

namespace KsVerif.Proofs.C02Kafka
open KsVerif KsVerif.Kafka KsVerif.Proofs.C06

theorem repeatDec_chainLen (f : D → Val × D) (z : Val) : ∀ (n : Nat) (d : D), (repeatDec f z n d).1.chainLen = n :=
  C06.repeatDec_chainLen f z

theorem repeatWhile_chainLen (f : D → Val × D) : ∀ (n : Nat) (d : D), (repeatWhile f n d).1.chainLen ≤ n := by
  intro n
  induction n with
  | zero => intro d; simp [repeatWhile, Val.chainLen]
  | succ n ih =>
    intro d
    simp only [repeatWhile]
    split
    · simp only [Val.chainLen]
      have := ih (f d).2
      omega
    · simp [Val.chainLen]

/-- Whatever count an array declares, the decoder yields at most as many elements as the message has bytes left. -/
theorem c02_kafka_array_len (e : Ty) (d : D) (vs : Val) (h : (decode (.arr e) d).1 = .arr vs) :
    vs.chainLen ≤ d.remain := by
  simp only [decode] at h
  obtain ⟨c, hc, _, hr⟩ := readInt_within 4 d
  split at h
  · cases h
  · simp only [Val.arr.injEq] at h
    subst h
    rw [repeatDec_chainLen]
    have := Nat.min_le_right (readInt 4 d).1.toNat (readInt 4 d).2.remain
    omega

/-- not vacuous: an array declaring 65535 elements in a message of 9 bytes yields 5 -/
example : (decode (.arr (.prim .int8)) { stream := [0, 0, 255, 255, 1, 2, 3, 4, 5], remain := 9 }).1
    = .arr (.cons (.int 1) (.cons (.int 2) (.cons (.int 3) (.cons (.int 4) (.cons (.int 5) .nil))))) := by
  decide

theorem discardAll_length {d0 d : D} (h : Within d0 d) :
    d.discardAll.stream.length = d0.stream.length - min d0.remain d0.stream.length := by
  rw [Within.discardAll h, List.length_drop]
  omega

theorem readRequest_progress (s : Bytes) (q : Req) (rest : Bytes) (h : readRequest s = .ok (q, rest)) :
    rest.length ≤ s.length - 8 := by
  obtain ⟨h8, _, _, rfl⟩ := readRequest_ok h
  rw [List.length_drop]
  omega

theorem register_length (open_ : List Req) (q : Req) : (register open_ q).length ≤ open_.length + 1 := by
  unfold register
  have := List.length_filter_le (fun o => o.corr != q.corr) open_
  simp only [List.length_append, List.length_cons, List.length_nil]
  omega

/-- per 8 bytes begun: an accepted request had its size prefix on the stream, so an empty half registers nothing -/
theorem requests_le_bytes (fuel : Nat) (s : Bytes) (acc : List Req) :
    (dissectClient fuel s acc).1.length ≤ acc.length + (s.length + 7) / 8 := by
  fun_induction dissectClient fuel s acc with
  | case1 | case2 => exact Nat.le_add_right _ _
  | case3 _ s acc q rest hr ih =>
    have hp := readRequest_progress s q rest hr
    have := (readRequest_ok hr).2.2.1
    have := register_length acc q
    omega

/-- A client half leaves at most one request registered per 8 bytes (plus one), whatever it declares. -/
theorem c02_kafka_requests_le_bytes : ∀ (fuel : Nat) (s : Bytes) (acc : List Req),
    (dissectClient fuel s acc).1.length ≤ acc.length + s.length / 8 + 1 := by
  intro fuel s acc
  have := requests_le_bytes fuel s acc
  omega

theorem readResponse_progress (open_ : List Req) (s : Bytes) (it : Option Item) (open' : List Req) (rest : Bytes)
    (h : readResponse open_ s = .ok (it, open', rest)) : rest.length ≤ s.length - 4 := by
  obtain ⟨h4, _, _, rfl⟩ := readResponse_ok h
  rw [List.length_drop]
  omega

theorem items_le_bytes (fuel : Nat) (s : Bytes) (open_ : List Req) (acc : List Item) :
    (dissectServer fuel s open_ acc).1.length ≤ acc.length + (s.length + 3) / 4 := by
  fun_induction dissectServer fuel s open_ acc with
  | case1 | case2 => exact Nat.le_add_right _ _
  | case3 _ s open_ acc it open' rest hr ih =>
    have hp := readResponse_progress open_ s it open' rest hr
    have := (readResponse_ok hr).2.2.1
    cases it with
    | none =>
      dsimp only at ih ⊢
      omega
    | some i =>
      simp only [List.length_append, List.length_singleton] at ih ⊢
      omega

/-- A server half yields at most one item per 4 bytes (plus one), whatever it declares and whatever is open. -/
theorem c02_kafka_items_le_bytes : ∀ (fuel : Nat) (s : Bytes) (open_ : List Req) (acc : List Item),
    (dissectServer fuel s open_ acc).1.length ≤ acc.length + s.length / 4 + 1 := by
  intro fuel s open_ acc
  have := items_le_bytes fuel s open_ acc
  omega

/-- not vacuous: an ApiVersions v0 request (12 bytes) is accepted and registered -/
example : (dissectClient 5 [0, 0, 0, 10, 0, 18, 0, 0, 0, 0, 0, 7, 255, 255] []).1.length = 1 := by decide

/-- With fuel above the length of the half (`Kafka.observe` gives `length + 1`) the dissection ends because the
    stream does or a message is refused, never because the fuel does. -/
theorem c02_kafka_client_fuel_suffices : ∀ (n : Nat) (s : Bytes) (acc : List Req), s.length < n →
    dissectClient (n + 1) s acc = dissectClient n s acc := by
  intro n s acc
  fun_induction dissectClient n s acc with
  | case1 => intro h; omega
  | case2 _ s _ e hr => intro _; simp [dissectClient, hr]
  | case3 n s acc q rest hr ih =>
    intro h
    have hp := readRequest_progress s q rest hr
    have := (readRequest_ok hr).2.2.1
    rw [dissectClient, hr]
    exact ih (by omega)

/-- Nor does the fuel end the dissection of a server half. -/
theorem c02_kafka_server_fuel_suffices : ∀ (n : Nat) (s : Bytes) (open_ : List Req) (acc : List Item), s.length < n →
    dissectServer (n + 1) s open_ acc = dissectServer n s open_ acc := by
  intro n s open_ acc
  fun_induction dissectServer n s open_ acc with
  | case1 => intro h; omega
  | case2 _ s open_ _ e hr => intro _; simp [dissectServer, hr]
  | case3 n s open_ acc it open' rest hr ih =>
    intro h
    have hp := readResponse_progress open_ s it open' rest hr
    have := (readResponse_ok hr).2.2.1
    rw [dissectServer, hr]
    exact ih (by omega)

end KsVerif.Proofs.C02Kafka
