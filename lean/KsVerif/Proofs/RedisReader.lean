/-
  One statement per routine of the Redis reader model: it fails only with an error read.go itself
  returns, and when it succeeds the stream is shorter.  C01 and C02 are read off these; C07 takes from
  `errorString_post` that an error line is reported with the line in it.
-/
import KsVerif.Redis.Model
import KsVerif.Proofs.Lemmas

namespace KsVerif.Proofs.RedisReader
open KsVerif.Redis KsVerif.Proofs.Lemmas

abbrev Fails := Lemmas.Fails Err.isPanic Err.outOfFuel

/-- What a routine called on `st` leaves: a state at least `k` bytes shorter, or a failure that `Fails enough`. -/
abbrev Reads {α : Type} (enough : Prop) (k : Nat) (st : St) : Except Err (α × St) → Prop :=
  Post (Fails enough) fun x => x.2.rem.length + k ≤ st.rem.length

variable {enough : Prop}

/-- `Post.cases` for a routine; where the goal fails by the same `enough`, the failure case is `fun _ h => h` -/
@[elab_as_elim]
theorem Reads.cases {α : Type} {k : Nat} {st : St} {M : Except Err (α × St) → Prop} {r : Except Err (α × St)}
    (h : Reads enough k st r) (error : ∀ e, Fails enough e → M (.error e))
    (ok : ∀ a st', st'.rem.length + k ≤ st.rem.length → M (.ok (a, st'))) : M r :=
  Post.cases h error fun (a, st') => ok a st'

theorem fails_endErr (st : St) : Fails enough st.endErr := by
  cases st with | mk rem tail => cases tail <;> exact ⟨rfl, fun _ => by simp [St.endErr]⟩

theorem next_reads (st : St) : Reads enough 1 st (next st) := by
  unfold next
  split
  · exact fails_endErr st
  · rename_i h
    simp [h]

theorem scanLine_shorter : ∀ (s : Bytes) {l r : Bytes}, scanLine s = some (l, r) → r.length + 2 ≤ s.length := by
  intro s
  fun_induction scanLine s with
  | case1 | case2 => intro l r h; cases h
  | case3 => intro l r h; cases h; simp
  | case4 _ _ _ ih | case5 _ _ _ _ ih =>
    intro l r h
    obtain ⟨⟨l', r'⟩, hs, h⟩ := Option.map_eq_some_iff.mp h
    cases h
    have := ih hs
    simp only [List.length_cons] at this ⊢
    omega

theorem readLineBytes_reads (st : St) : Reads enough 2 st (readLineBytes st) := by
  unfold readLineBytes
  split
  · rename_i h
    exact scanLine_shorter _ h
  · exact fails_endErr st

theorem readLine_reads (st : St) : Reads enough 2 st (readLine st) := by
  unfold readLine
  refine (readLineBytes_reads st).cases (fun _ h => h) fun l st' h => ?_
  exact .ite (Fails.of_ne rfl (by simp)) h

theorem digits_post (bs : Bytes) (v : Int) (t : Tail) :
    Post (Fails enough) (fun x => x.2.length + 2 ≤ bs.length) (digits bs v t) := by
  fun_induction digits bs v t with
  | case1 _ t | case2 _ _ t => cases t <;> exact Fails.of_ne rfl (by simp)
  | case3 => simp
  | case4 => exact Fails.of_ne rfl (by simp)
  | case5 _ _ _ _ _ _ ih =>
    refine ih.imp (fun _ h => h) fun _ h => ?_
    simp only [List.length_cons] at h ⊢
    omega

theorem readInt_reads (st : St) : Reads enough 2 st (readInt st) := by
  unfold readInt
  split
  · exact fails_endErr st
  · rename_i b r hb
    simp only
    refine (digits_post (if b = 45 then r else st.rem) 0 st.tail).cases (fun _ h => h) fun (v, rest) h => ?_
    simp only [post_ok, hb, List.length_cons] at h ⊢
    split at h <;> omega

theorem bulkBody_reads (l : Int) (st : St) : Reads enough 2 st (bulkBody l st) := by
  unfold bulkBody
  refine .ite (fails_endErr st) ?_
  refine (next_reads { st with rem := st.rem.drop l.toNat }).cases (fun _ h => h) fun c1 st1 h1 => ?_
  refine .ite (Fails.of_ne rfl (by simp)) ?_
  refine (next_reads st1).cases (fun _ h => h) fun c2 st2 h2 => ?_
  refine .ite (Fails.of_ne rfl (by simp)) ?_
  simp only [post_ok, List.length_drop] at h1 ⊢
  omega

theorem errorString_post (msg : Bytes) :
    Post (· = .badRedirect) (fun s => ∃ pre post, s = pre ++ msg ++ post) (errorString msg) := by
  unfold errorString
  extract_lets arr redirect
  have hr : ∀ kind, Post (· = .badRedirect) (fun s => ∃ pre post, s = pre ++ msg ++ post) (redirect kind) := by
    intro kind
    show Post _ _ (if arr.length < 3 then _ else _)
    split
    · rfl
    · split
      · split
        split
        · exact ⟨_, _, by simp only [List.append_assoc]; rfl⟩
        · rfl
      · -- `arr[2]`, `arr[1]` of parseTargetHostAndSlot: behind the length guard, so no index panic
        rename_i hlen _ _ hno
        exact (hno _ _ (List.getElem?_eq_getElem (by omega)) (List.getElem?_eq_getElem (by omega))).elim
  have hk : ∀ pre : Bytes, Post (· = Err.badRedirect) (fun s => ∃ pre post, s = pre ++ msg ++ post) (.ok (pre ++ msg)) :=
    fun pre => ⟨pre, [], by simp⟩
  exact .ite (hr _) (.ite (hr _) (.ite (hk _) (.ite (hk _) (.ite (hk _) (hk _)))))

theorem shape_post (v : RVal) (t : RType) : Post (Fails enough) (fun _ => True) (shape v t) := by
  unfold shape
  extract_lets p validate
  have hv : ∀ p, Post (Fails enough) (fun _ => True) (validate p) := fun p =>
    Post.ite (a := .error Err.unrecognizedCommand) (Fails.of_ne rfl (by simp)) trivial
  split
  · split
    · trivial
    · exact hv _
    · exact Fails.of_ne rfl (by simp)
  · exact .ite (.ite trivial (Fails.of_ne rfl (by simp))) trivial
  · trivial
  · trivial

theorem process_elems_post : ∀ (fuel : Nat),
    (∀ st, Post (Fails (st.rem.length + 1 ≤ fuel)) (fun x => x.2.2.rem.length < st.rem.length) (process fuel st)) ∧
    (∀ n st, Post (Fails (st.rem.length + 2 ≤ fuel)) (fun x => x.2.rem.length + x.1.length ≤ st.rem.length)
      (elems fuel n st)) := by
  intro fuel
  induction fuel with
  | zero => exact ⟨fun st => ⟨rfl, fun h => by omega⟩, fun n st => ⟨rfl, fun h => by omega⟩⟩
  | succ fuel ih =>
    constructor
    · intro st
      simp only [process]
      refine (next_reads st).cases (fun _ h => h) fun b st1 h0 => ?_
      -- which reply type the first byte announces does not matter
      refine .ite ?_ (.ite ?_ (.ite ?_ (.ite ?_ (.ite ?_ (Fails.of_ne rfl (by simp))))))
      · exact (readLineBytes_reads st1).cases (fun _ h => h) fun _ st2 h1 => by simp only [post_ok]; omega
      · refine (readInt_reads st1).cases (fun _ h => h) fun l st2 h1 => .ite (by simp only [post_ok]; omega) ?_
        exact (bulkBody_reads l st2).cases (fun _ h => h) fun _ st3 h2 => by simp only [post_ok]; omega
      · refine (readInt_reads st1).cases (fun _ h => h) fun l st2 h1 => .ite (by simp only [post_ok]; omega) ?_
        refine (ih.2 l.toNat st2).cases (fun _ he => he.mono (by omega)) fun (_, st3) h2 => ?_
        simp only [post_ok] at h2 ⊢
        omega
      · exact (readInt_reads st1).cases (fun _ h => h) fun _ st2 h1 => by simp only [post_ok]; omega
      · refine (readLine_reads st1).cases (fun _ h => h) fun msg st2 h1 => ?_
        dsimp only  -- reduces the `match` on `.ok ..`, so that the next call shows in the goal
        exact (errorString_post msg).cases (fun _ he => he ▸ (Fails.of_ne rfl (by simp))) fun _ _ => by
          simp only [post_ok]; omega
    · intro n st
      cases n with
      | zero => simp [elems]
      | succ n =>
        simp only [elems]
        refine (ih.1 st).cases (fun _ he => he.mono (by omega)) fun (v, _, st1) h1 => ?_
        dsimp only at h1 ⊢
        refine (ih.2 n st1).cases (fun _ he => he.mono (by omega)) fun (vs, st2) h2 => ?_
        simp only [post_ok, List.length_cons] at h2 ⊢
        omega

theorem read_reads (fuel : Nat) (st : St) : Reads (st.rem.length + 1 ≤ fuel) 1 st (Redis.read fuel st) := by
  unfold Redis.read
  refine ((process_elems_post fuel).1 st).cases (fun _ h => h) fun (v, t, st1) h => ?_
  dsimp only
  exact (shape_post v t).cases (fun _ h => h) fun _ _ => h

theorem dissect_bounds : ∀ (fuel : Nat) (st : St),
    (dissect fuel st).1.length ≤ st.rem.length ∧ Fails (st.rem.length + 1 ≤ fuel) (dissect fuel st).2 := by
  intro fuel
  induction fuel with
  | zero => exact fun st => ⟨Nat.zero_le _, rfl, fun h => by omega⟩
  | succ fuel ih =>
    intro st
    simp only [dissect]
    -- Dissect gives `read` more fuel than the stream has bytes
    refine (read_reads (2 * st.rem.length + 4) st).cases
      (fun _ he => ⟨Nat.zero_le _, he.mono fun _ => by omega⟩) fun p st' h1 => ?_
    have ⟨h2, h3⟩ := ih st'
    dsimp only
    exact ⟨by simp only [List.length_cons]; omega, h3.mono (by omega)⟩

end KsVerif.Proofs.RedisReader
