/-
  C02, Redis part.  `KsVerif.Proofs.C02`: every loop iteration of the reader consumes input or returns, so
  packets and array elements are bounded by the bytes present, not by declared counts and lengths.
  `KsVerif.Proofs.C02Redis`: the model's fuel never decides - `process` / `elems` write the recursion of read.go
  (processArray calling process for every element) with a fuel argument, `dissect` the Dissect loop, and
  fuel above the bytes present never runs out.
  Partial: CPU time and allocation are runtime behaviour the model cannot exhibit; they are measured
  on the real Dissect by the families cost.<protocol> against a fixed linear bound, not proved.
-/
import KsVerif.Proofs.RedisReader

namespace KsVerif.Proofs.C02
open KsVerif.Redis KsVerif.Proofs.RedisReader

theorem process_elems_shorter : ∀ (fuel : Nat),
    (∀ st v t st', process fuel st = .ok (v, t, st') → st'.rem.length < st.rem.length) ∧
    (∀ n st vs st', elems fuel n st = .ok (vs, st') → st'.rem.length ≤ st.rem.length ∧ vs.length ≤ st.rem.length - st'.rem.length) := by
  intro fuel
  have ⟨hp, he⟩ := process_elems_post fuel
  refine ⟨fun st _ _ _ h => (hp st).ok h, fun n st _ _ h => ?_⟩
  have := (he n st).ok h
  simp only at this
  omega

theorem read_shorter {fuel : Nat} {st st' : St} {p : Packet} (h : Redis.read fuel st = .ok (p, st')) :
    st'.rem.length < st.rem.length :=
  (read_reads fuel st).ok h

/-- C02 (Redis): the Dissect loop hands over at most one packet per byte of the stream, whatever counts
    and lengths the stream declares. -/
theorem c02_redis_packets_le_bytes : ∀ (fuel : Nat) (st : St), (dissect fuel st).1.length ≤ st.rem.length :=
  fun fuel st => (dissect_bounds fuel st).1

/-- `*N` never yields more elements than bytes follow the header (the `*30000000` shape). -/
theorem c02_redis_array_elems_le_bytes (fuel n : Nat) (st st' : St) (vs : List RVal)
    (h : elems fuel n st = .ok (vs, st')) : vs.length ≤ st.rem.length :=
  Nat.le_trans (Nat.le_add_left _ _) (((process_elems_post fuel).2 n st).ok h)

/-- Non-vacuity: a declared count beyond what is present ends with the stream's end. -/
example : (dissectAll [42, 57, 13, 10] .eof).2 = .eof := by decide

end KsVerif.Proofs.C02

namespace KsVerif.Proofs.C02Redis
open KsVerif.Redis KsVerif.Proofs.RedisReader

/-- with more fuel than bytes, fuel is not what fails -/
def InvP (fuel : Nat) (st : St) : Except Err (RVal × RType × St) → Prop
  | .ok _ => True
  | .error e => st.rem.length + 1 ≤ fuel → e ≠ .outOfFuel

def InvE (fuel : Nat) (st : St) : Except Err (List RVal × St) → Prop
  | .ok _ => True
  | .error e => st.rem.length + 2 ≤ fuel → e ≠ .outOfFuel

theorem process_elems_fuel : ∀ (fuel : Nat),
    (∀ st r, process fuel st = r → InvP fuel st r) ∧
    (∀ n st r, elems fuel n st = r → InvE fuel st r) := by
  intro fuel
  have ⟨hp, he⟩ := process_elems_post fuel
  refine ⟨fun st r h => ?_, fun n st r h => ?_⟩ <;> subst h
  · exact (hp st).cases (fun _ he => he.2) fun _ _ => trivial
  · exact (he n st).cases (fun _ he => he.2) fun _ _ => trivial

/-- For every byte sequence and stream end the modelled Dissect loop ends because the stream ended or was
    rejected, never because fuel ran out. -/
theorem c02_redis_dissect_total (bytes : Bytes) (tail : Tail) : (dissectAll bytes tail).2 ≠ .outOfFuel :=
  (dissect_bounds _ _).2.2 (by simp only; omega)

end KsVerif.Proofs.C02Redis
