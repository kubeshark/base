/-
  C13 — no query text and no record content can crash KFL (the part the model carries).

  Termination: every function of the model is accepted by Lean's termination checker (structural
  recursion or explicit fuel).  Precompute: the one Go operation of the compile-time pass that can
  still panic, the nil dereference in `evalExpression(call.Parameters[0].Expression, nil)` when
  the first parameter has been replaced by a compiled path, is an explicit `panic` flag in the
  model.  Parsing (participle), macro expansion (regexp2) and the XML library are outside the
  model: they are exercised by the correspondence check only.
-/
import KsVerif.Kfl.Precompute

namespace KsVerif.Proofs.C13
open KsVerif.Kfl

/-! Syntax trees as the parser builds them: every parameter is an expression, and a parameter
    list is never empty. -/
mutual
  def rawExpr : Expr → Bool
    | .empty => true
    | .mk l => rawLogical l
  def rawLogical : Logical → Bool
    | .one e => rawEquality e
    | .bin e _ n => rawEquality e && rawLogical n
  def rawEquality : Equality → Bool
    | .one c => rawComparison c
    | .bin c _ n => rawComparison c && rawEquality n
  def rawComparison : Comparison → Bool
    | .one u => rawUnary u
    | .bin u _ n => rawUnary u && rawComparison n
  def rawUnary : Unary → Bool
    | .op _ u => rawUnary u
    | .pri p => rawPrimary p
  def rawPrimary : Primary → Bool
    | .sub e => rawExpr e
    | .call ident params sel _ hl => ident != "" && hl.isNone && rawParams params && rawSel sel
    | _ => true
  def rawParams : Params → Bool
    | .none => true
    | .some .nil => false
    | .some (.cons p rest) => rawParam p && rawParamList rest
  def rawParamList : ParamList → Bool
    | .nil => true
    | .cons p rest => rawParam p && rawParamList rest
  def rawParam : Param → Bool
    | .expr e => rawExpr e
    | _ => false
  def rawSel : Sel → Bool
    | .none => true
    | .mk _ _ _ _ e => rawExpr e
end

/-- the enclosing `.json()` / `.xml()` path handed down by the compile-time pass.  The invariant
    of the pass: `json` / `xml` are not compile-time helpers, so under such a path the parameter
    that the rebasing replaced by a compiled path is never dereferenced. -/
def JhpOk (s : String) : Prop := s = "" ∨ lastSegment s = "json" ∨ lastSegment s = "xml"

def paramsNonEmpty : Params → Bool
  | .none => false
  | .some .nil => false
  | .some (.cons _ _) => true

/-- a call node is safe when its helper, unless it is `json` / `xml` (which check the number
    of their arguments), comes with at least one parameter -/
def callOk (params : Params) (helper : Option String) : Bool :=
  match helper with
  | none => true
  | some h => h == "json" || h == "xml" || paramsNonEmpty params

mutual
  def okExpr : Expr → Bool
    | .empty => true
    | .mk l => okLogical l
  def okLogical : Logical → Bool
    | .one e => okEquality e
    | .bin e _ n => okEquality e && okLogical n
  def okEquality : Equality → Bool
    | .one c => okComparison c
    | .bin c _ n => okComparison c && okEquality n
  def okComparison : Comparison → Bool
    | .one u => okUnary u
    | .bin u _ n => okUnary u && okComparison n
  def okUnary : Unary → Bool
    | .op _ u => okUnary u
    | .pri p => okPrimary p
  -- not into `params`: Precompute (Go and model) leaves parameter expressions unprepared, so no
  -- helper is ever set inside them
  def okPrimary : Primary → Bool
    | .sub e => okExpr e
    | .call _ params sel _ helper => callOk params helper && okSel sel
    | _ => true
  def okSel : Sel → Bool
    | .none => true
    | .mk _ _ _ _ e => okExpr e
end

theorem firstParam_raw : ∀ {ps : Params}, rawParams ps = true →
    ∀ p, firstParam ps = some p → ∃ e, p = .expr e
  | .some (.cons (.expr e) _), _, _, rfl => ⟨e, rfl⟩
  | .some (.cons (.path _) _), h, _, _ => nomatch h
  | .some (.cons .time _), h, _, _ => nomatch h
  | .some .nil, h, _, _ => nomatch h
  | .none, _, _, hp => nomatch hp

theorem rawParams_nonEmpty : ∀ {ps : Params}, rawParams ps = true →
    ps = .none ∨ paramsNonEmpty ps = true
  | .none, _ => .inl rfl
  | .some .nil, h => nomatch h
  | .some (.cons _ _), _ => .inr rfl

theorem not_compileTime_of_jhp {jhp : String} (h : JhpOk jhp) :
    compileTimeHelpers.contains (lastSegment jhp) = false := by
  rcases h with rfl | h | h
  · decide
  · rw [h]; decide
  · rw [h]; decide

theorem callOk_of_nonEmpty {params : Params} (h : paramsNonEmpty params = true) (helper : Option String) :
    callOk params helper = true := by
  cases helper with
  | none => rfl
  | some _ => simp only [callOk, h, Bool.or_true]

/-- `finishCall` from its second `Path.parse` on.  Word for word as in the model, so that
    `finishCall_tail` holds by `rfl`: under any other spelling that check is very slow. -/
def callTail (ident : String) (params : Params) (sel : Sel) (path : String) (unsupA : Bool)
    (helper0 : Option String) : CR Primary :=
  match Path.parse path with
  | .unsupported => { node := .call ident params sel none helper0, prop := { path }, unsup := true }
  | .error => { node := .call ident params sel none helper0, prop := { path }, err := true, unsup := unsupA }
  | .ok jsonPath =>
    let h := lastSegment path
    let unsupA := unsupA || ((compileTimeHelpers.contains h && h != "limit") || h == "datetime" || h == "xml")
    match params with
    | .some _ =>
      let jsonPath := jsonPath.dropLast
      if compileTimeHelpers.contains h then
        match firstParam params with
        | some (.expr pe) =>
          let (v, _) := evalExpr pe .null
          if h == "limit" then
            match decToNat (float64Operand v) with
            | some n => { node := .call ident params sel (some jsonPath) (some h), prop := { path, limit := n }, unsup := unsupA }
            | none => { node := .call ident params sel (some jsonPath) (some h), prop := { path }, unsup := true }
          else if h == "now" then
            { node := .call ident params sel (some jsonPath) (some h), prop := { path }, unsup := unsupA }
          else
            { node := .call ident (.some (.cons .time .nil)) sel (some jsonPath) (some h), prop := { path }, unsup := unsupA }
        | some _ =>
          { node := .call ident params sel (some jsonPath) (some h), prop := { path }, unsup := unsupA, panic := true }
        | none => { node := .call ident params sel (some jsonPath) (some h), prop := { path }, unsup := unsupA }
      else { node := .call ident params sel (some jsonPath) (some h), prop := { path }, unsup := unsupA }
    | .none =>
      if h == "now" then
        { node := .call ident (.some (.cons .time .nil)) sel (some jsonPath) (some h), prop := { path }, unsup := unsupA }
      else { node := .call ident .none sel (some jsonPath) helper0, prop := { path }, unsup := unsupA }

theorem finishCall_tail (ident : String) (params : Params) (sel : Sel) (path pre jhp : String)
    (h0 : Option String) :
    ∃ ps u, finishCall ident params sel path pre jhp h0 =
        callTail ident ps sel (if jhp = "" then pre ++ "." ++ path else jhp) u h0 ∧
      (ps = params ∨ jhp ≠ "" ∧ ∃ p, ps = .some (.cons (.path p) .nil)) := by
  unfold finishCall
  by_cases hj : jhp = ""
  · subst hj
    exact ⟨params, false, rfl, .inl rfl⟩
  · have hb : (jhp != "") = true := by simpa using hj
    simp only [hb, hj, if_true, if_false]
    cases Path.parse (pre ++ "." ++ path) with
    | ok p => exact ⟨_, false, rfl, .inr ⟨hj, p, rfl⟩⟩
    | error => exact ⟨params, false, rfl, .inl rfl⟩
    | unsupported => exact ⟨params, true, rfl, .inl rfl⟩

/-- The last clause is what `finishCall_ok` lives on: a helper read off the path comes with
    parameters. -/
theorem callTail_spec (ident : String) (ps : Params) (sel : Sel) (path : String) (u : Bool)
    (h0 : Option String) :
    ((callTail ident ps sel path u h0).panic = true →
      compileTimeHelpers.contains (lastSegment path) = true ∧
        ∃ q, firstParam ps = some q ∧ ∀ e, q ≠ .expr e) ∧
    ∃ ps' jp h, (callTail ident ps sel path u h0).node = .call ident ps' sel jp h ∧
      (ps' = ps ∨ ps' = .some (.cons .time .nil)) ∧ (h = h0 ∨ ps' ≠ .none) := by
  unfold callTail
  cases Path.parse path with
  | ok jp =>
    cases ps with
    | none =>
      simp only
      by_cases hnow : (lastSegment path == "now") = true
      · rw [if_pos hnow]
        exact ⟨nofun, _, _, _, rfl, .inr rfl, .inr nofun⟩
      · rw [if_neg hnow]
        exact ⟨nofun, _, _, _, rfl, .inl rfl, .inl rfl⟩
    | some l =>
      simp only
      by_cases hct : compileTimeHelpers.contains (lastSegment path) = true
      · rw [if_pos hct]
        cases firstParam (.some l) with
        | none => exact ⟨nofun, _, _, _, rfl, .inl rfl, .inr nofun⟩
        | some q =>
          cases q with
          | expr e =>
            simp only
            by_cases hlimit : (lastSegment path == "limit") = true
            · rw [if_pos hlimit]
              split <;> exact ⟨nofun, _, _, _, rfl, .inl rfl, .inr nofun⟩
            · rw [if_neg hlimit]
              by_cases hnow : (lastSegment path == "now") = true
              · rw [if_pos hnow]
                exact ⟨nofun, _, _, _, rfl, .inl rfl, .inr nofun⟩
              · rw [if_neg hnow]
                exact ⟨nofun, _, _, _, rfl, .inr rfl, .inr nofun⟩
          | path p => exact ⟨fun _ => ⟨hct, _, rfl, nofun⟩, _, _, _, rfl, .inl rfl, .inr nofun⟩
          | time => exact ⟨fun _ => ⟨hct, _, rfl, nofun⟩, _, _, _, rfl, .inl rfl, .inr nofun⟩
      · rw [if_neg hct]
        exact ⟨nofun, _, _, _, rfl, .inl rfl, .inr nofun⟩
  | _ => exact ⟨nofun, _, _, _, rfl, .inl rfl, .inl rfl⟩

theorem finishCall_no_panic {ident : String} {params : Params} {sel : Sel} {path pre jhp : String}
    {h0 : Option String} (hj : JhpOk jhp) (hp : jhp = "" → rawParams params = true) :
    (finishCall ident params sel path pre jhp h0).panic = false := by
  obtain ⟨ps, u, he, hps⟩ := finishCall_tail ident params sel path pre jhp h0
  rw [he, Bool.eq_false_iff]
  intro hpanic
  obtain ⟨hct, q, hq, hne⟩ := (callTail_spec _ _ _ _ _ _).1 hpanic
  by_cases hempty : jhp = ""
  · -- no enclosing json(): the parameters are the parser's
    rcases hps with rfl | ⟨h, _⟩
    · obtain ⟨e, rfl⟩ := firstParam_raw (hp hempty) q hq
      exact hne e rfl
    · exact h hempty
  · -- inside json() / xml(): the last segment handed down is not compile-time
    rw [if_neg hempty, not_compileTime_of_jhp hj] at hct
    cases hct

theorem finishCall_ok {ident : String} {params : Params} {sel : Sel} {path pre jhp : String}
    {h0 : Option String} (hh : ∀ ps, callOk ps h0 = true) (hp : params = .none ∨ paramsNonEmpty params = true)
    (hs : okSel sel = true) :
    okPrimary (finishCall ident params sel path pre jhp h0).node = true := by
  obtain ⟨ps, u, he, hps⟩ := finishCall_tail ident params sel path pre jhp h0
  obtain ⟨ps', jp, h, hn, hps', hh'⟩ :=
    (callTail_spec ident ps sel (if jhp = "" then pre ++ "." ++ path else jhp) u h0).2
  rw [he, hn]
  show (callOk ps' h && okSel sel) = true
  rw [hs, Bool.and_true]
  rcases hh' with rfl | hne
  · exact hh _
  · apply callOk_of_nonEmpty
    rcases hps' with rfl | rfl
    · rcases hps with rfl | ⟨_, p, rfl⟩
      · exact hp.resolve_left hne
      · rfl
    · rfl

theorem and_imp_and {a b c d : Bool} (f : a = true → c = true) (g : b = true → d = true)
    (h : (a && b) = true) : (c && d) = true :=
  have ⟨ha, hb⟩ := Bool.and_eq_true_iff.mp h
  Bool.and_eq_true_iff.mpr ⟨f ha, g hb⟩

/- `okr_*`: a tree as the parser built it is ok as it stands; `safe_primary` needs it for the `sel`
   that `computeCall` leaves untouched.  Here and in `safe_*`, `rawX`, `okX` and `computeX` at a
   constructor unfold by definition: the hypothesis of a case is that of its recursive calls. -/
mutual
  theorem okr_expr : ∀ (e : Expr), rawExpr e = true → okExpr e = true
    | .empty, _ => rfl
    | .mk l, h => okr_logical l h
  theorem okr_logical : ∀ (l : Logical), rawLogical l = true → okLogical l = true
    | .one e, h => okr_equality e h
    | .bin e _ n, h => and_imp_and (okr_equality e) (okr_logical n) h
  theorem okr_equality : ∀ (q : Equality), rawEquality q = true → okEquality q = true
    | .one c, h => okr_comparison c h
    | .bin c _ n, h => and_imp_and (okr_comparison c) (okr_equality n) h
  theorem okr_comparison : ∀ (c : Comparison), rawComparison c = true → okComparison c = true
    | .one u, h => okr_unary u h
    | .bin u _ n, h => and_imp_and (okr_unary u) (okr_comparison n) h
  theorem okr_unary : ∀ (u : Unary), rawUnary u = true → okUnary u = true
    | .op _ u, h => okr_unary u h
    | .pri p, h => okr_primary p h
  theorem okr_primary : ∀ (p : Primary), rawPrimary p = true → okPrimary p = true
    | .sub e, h => okr_expr e h
    | .call _ params sel _ hl, h => by
      -- a tree as the parser built it has no helper field set: nothing to call
      refine and_imp_and (fun h => ?_) (okr_sel sel) h
      have hn : hl = none := by simpa using (Bool.and_eq_true_iff.mp (Bool.and_eq_true_iff.mp h).1).2
      rw [hn]; rfl
    | .regex _, _ => rfl
    | .bool _, _ => rfl
    | .num _, _ => rfl
    | .str _, _ => rfl
    | .nil, _ => rfl
  theorem okr_sel : ∀ (s : Sel), rawSel s = true → okSel s = true
    | .none, _ => rfl
    | .mk _ _ _ _ e, h => okr_expr e h
end

theorem selPathParams_params (ident : String) (b : Bool) (index : Option Nat) (key : Option String) :
    (selPathParams ident b index key).2.1 = .none ∨
      b = true ∧ ∃ p, (selPathParams ident b index key).2.1 = .some (.cons (.path p) .nil) := by
  unfold selPathParams
  simp only
  split
  · exact .inl rfl
  · split
    · next hb =>
      split
      · exact .inr ⟨hb, _, rfl⟩
      · exact .inl rfl
      · exact .inl rfl
    · exact .inl rfl

/-- what the compile-time pass owes for a tree of the parser: helpers have the parameter they
    index and, under a path handed down by `.json()` / `.xml()`, no nil dereference is met -/
def Safe {α : Type} (ok : α → Bool) (jhp : String) (r : CR α) : Prop :=
  ok r.node = true ∧ (JhpOk jhp → r.panic = false)

theorem Safe.bin {α β : Type} {okA : α → Bool} {okB : β → Bool} {jhp : String} {r : CR α} {s : CR β}
    {a b : Bool} (hr : a = true → Safe okA jhp r) (hs : b = true → Safe okB jhp s) (h : (a && b) = true) :
    (okA r.node && okB s.node) = true ∧ (JhpOk jhp → (r.panic || s.panic) = false) :=
  have ⟨ha, hb⟩ := Bool.and_eq_true_iff.mp h
  ⟨Bool.and_eq_true_iff.mpr ⟨(hr ha).1, (hs hb).1⟩,
    fun hj => Bool.or_eq_false_iff.mpr ⟨(hr ha).2 hj, (hs hb).2 hj⟩⟩

mutual
  theorem safe_expr : ∀ (e : Expr) (pre jhp : String), rawExpr e = true →
      Safe okExpr jhp (computeExpr e pre jhp)
    | .empty, _, _, _ => ⟨rfl, fun _ => rfl⟩
    | .mk l, pre, jhp, h => safe_logical l pre jhp h
  theorem safe_logical : ∀ (l : Logical) (pre jhp : String), rawLogical l = true →
      Safe okLogical jhp (computeLogical l pre jhp)
    | .one e, pre, jhp, h => safe_equality e pre jhp h
    | .bin e _ n, pre, jhp, h => Safe.bin (safe_equality e pre jhp) (safe_logical n pre jhp) h
  theorem safe_equality : ∀ (q : Equality) (pre jhp : String), rawEquality q = true →
      Safe okEquality jhp (computeEquality q pre jhp)
    | .one c, pre, jhp, h => safe_comparison c pre jhp h
    | .bin c _ n, pre, jhp, h => Safe.bin (safe_comparison c pre jhp) (safe_equality n pre jhp) h
  theorem safe_comparison : ∀ (c : Comparison) (pre jhp : String), rawComparison c = true →
      Safe okComparison jhp (computeComparison c pre jhp)
    | .one u, pre, jhp, h => safe_unary u pre jhp h
    | .bin u _ n, pre, jhp, h => Safe.bin (safe_unary u pre jhp) (safe_comparison n pre jhp) h
  theorem safe_unary : ∀ (u : Unary) (pre jhp : String), rawUnary u = true →
      Safe okUnary jhp (computeUnary u pre jhp)
    | .op _ u, pre, jhp, h => safe_unary u pre jhp h
    | .pri p, pre, jhp, h => safe_primary p pre jhp h
  theorem safe_primary : ∀ (p : Primary) (pre jhp : String), rawPrimary p = true →
      Safe okPrimary jhp (computePrimary p pre jhp)
    | .sub e, pre, jhp, h => safe_expr e pre jhp h
    | .call ident params sel jp hl, pre, jhp, h => by
      have ⟨h3, hsel⟩ := Bool.and_eq_true_iff.mp h
      have ⟨h2, hps⟩ := Bool.and_eq_true_iff.mp h3
      have hid : ident ≠ "" := by simpa using (Bool.and_eq_true_iff.mp h2).1
      show Safe okPrimary jhp (computeCall ident params sel pre jhp)
      unfold computeCall
      cases params with
      | some ps =>
        -- a function call keeps its select expression as the parser built it
        exact ⟨finishCall_ok (fun _ => rfl) (rawParams_nonEmpty hps) (okr_sel _ hsel),
          fun hj => finishCall_no_panic hj fun _ => hps⟩
      | none =>
        cases sel with
        | none =>
          exact ⟨finishCall_ok (fun _ => rfl) (.inl rfl) rfl,
            fun hj => finishCall_no_panic hj fun _ => rfl⟩
        | mk index key rd hasExpr e =>
          -- `jsonHelperUsed` of the model decides helper, path handed down and parameters at once
          by_cases hc : (lastSegment ident == "json" || lastSegment ident == "xml") = true
          · have hok : ∀ ps, callOk ps (some (lastSegment ident)) = true := fun _ => by
              simp only [callOk, hc, Bool.true_or]
            have hj' : JhpOk ident := .inr (by simpa using hc)
            cases hasExpr with
            | true =>
              simp only [hc, if_true, Safe]
              exact ⟨Bool.and_eq_true_iff.mpr ⟨hok _, (safe_expr e _ _ hsel).1⟩,
                fun _ => (safe_expr e _ _ hsel).2 hj'⟩
            | false =>
              simp only [hc, Bool.false_eq_true, if_true, if_false, Safe]
              exact ⟨finishCall_ok hok
                  ((selPathParams_params ..).imp_right fun ⟨_, _, h⟩ => by rw [h]; rfl) (okr_sel _ hsel),
                fun _ => finishCall_no_panic hj' fun hempty => absurd hempty hid⟩
          · cases hasExpr with
            | true =>
              simp only [hc, if_true, Safe]
              exact ⟨(safe_expr e _ _ hsel).1, (safe_expr e _ _ hsel).2⟩
            | false =>
              simp only [hc, Bool.false_eq_true, if_false, Safe]
              have hps : (selPathParams ident false index key).2.1 = .none :=
                (selPathParams_params ident false index key).resolve_right fun ⟨hb, _⟩ => nomatch hb
              exact ⟨finishCall_ok (fun _ => rfl) (.inl hps) (okr_sel _ hsel),
                fun hj => finishCall_no_panic hj fun _ => by rw [hps]; rfl⟩
    | .regex _, _, _, _ => ⟨rfl, fun _ => rfl⟩
    | .bool _, _, _, _ => ⟨rfl, fun _ => rfl⟩
    | .num _, _, _, _ => ⟨rfl, fun _ => rfl⟩
    | .str _, _, _, _ => ⟨rfl, fun _ => rfl⟩
    | .nil, _, _, _ => ⟨rfl, fun _ => rfl⟩
end

/- `np_*` and `ok_*`: the two halves of `safe_*` on their own. -/
theorem np_logical : ∀ (l : Logical) (pre jhp : String), rawLogical l = true → JhpOk jhp →
      (computeLogical l pre jhp).panic = false :=
  fun l pre jhp h => (safe_logical l pre jhp h).2
theorem np_equality : ∀ (q : Equality) (pre jhp : String), rawEquality q = true → JhpOk jhp →
      (computeEquality q pre jhp).panic = false :=
  fun q pre jhp h => (safe_equality q pre jhp h).2
theorem np_comparison : ∀ (c : Comparison) (pre jhp : String), rawComparison c = true → JhpOk jhp →
      (computeComparison c pre jhp).panic = false :=
  fun c pre jhp h => (safe_comparison c pre jhp h).2
theorem np_unary : ∀ (u : Unary) (pre jhp : String), rawUnary u = true → JhpOk jhp →
      (computeUnary u pre jhp).panic = false :=
  fun u pre jhp h => (safe_unary u pre jhp h).2

/-- C13, compile-time pass: whatever syntax tree the parser produces — any helper, any
    number and kind of arguments, any nesting of json()/xml() selectors — Precompute never
    dereferences a missing parameter expression. -/
theorem c13_precompute_no_panic (e : Expr) (h : rawExpr e = true) : (precompute e).panic = false :=
  (safe_expr e "" "" h).2 (.inl rfl)

theorem ok_logical : ∀ (l : Logical) (pre jhp : String), rawLogical l = true → okLogical (computeLogical l pre jhp).node = true :=
  fun l pre jhp h => (safe_logical l pre jhp h).1
theorem ok_equality : ∀ (q : Equality) (pre jhp : String), rawEquality q = true → okEquality (computeEquality q pre jhp).node = true :=
  fun q pre jhp h => (safe_equality q pre jhp h).1
theorem ok_comparison : ∀ (c : Comparison) (pre jhp : String), rawComparison c = true → okComparison (computeComparison c pre jhp).node = true :=
  fun c pre jhp h => (safe_comparison c pre jhp h).1
theorem ok_unary : ∀ (u : Unary) (pre jhp : String), rawUnary u = true → okUnary (computeUnary u pre jhp).node = true :=
  fun u pre jhp h => (safe_unary u pre jhp h).1
theorem ok_primary : ∀ (p : Primary) (pre jhp : String), rawPrimary p = true → okPrimary (computePrimary p pre jhp).node = true :=
  fun p pre jhp h => (safe_primary p pre jhp h).1

/-- C13, helpers: in a query prepared from any syntax tree of the parser every helper other
    than `json` / `xml` is called with at least one parameter, so the unguarded `args[2]` of
    `startsWith`, `endsWith`, `contains`, `datetime` and the time helpers is in range. -/
theorem c13_helper_args_present (e : Expr) (h : rawExpr e = true) : okExpr (precompute e).node = true :=
  (safe_expr e "" "" h).1

end KsVerif.Proofs.C13
